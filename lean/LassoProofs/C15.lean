import LassoProofs.Lemmas.SerdeT
import LassoProofs.C06
import LassoModel.Extracted
import LassoProofs.Lemmas.Config
import LassoProofs.Lemmas.DeserInterp
/-
  C15 — deserialising arbitrary documents is safe: a consistent object or an error.

  Documents are modelled at serde's data-model level: any list of strings (any repetitions), any list
  of `(string, raw key)` entries in textual order (repeated strings — the last one wins, as in
  `HashMap::deserialize` — repeated keys, gaps, zero, values beyond the key range).  The JSON text
  layer is serde_json's and is exercised by the correspondence run only.
-/
namespace Lasso.C15
open Lasso

/-- `Rodeo` / `RodeoReader` from *any* list: an error, or an object satisfying the full interner
invariant — so every lookup is exact, every key it reports resolves to one string, and no safe call
on it can fault (see the consequences below).  Accepted exactly when the strings are pairwise
distinct and within the key capacity. -/
theorem rodeo_total (env : Env) (N : Nat) (doc : List Bytes) :
    (∃ r, deRodeo env N doc = .ok r ∧ r.Inv env ∧ doc.Nodup ∧ doc.length ≤ N ∧ ∀ j, r.str env j = doc[j]?) ∨
    (deRodeo env N doc = .err .serde ∧ ¬ (doc.Nodup ∧ doc.length ≤ N)) := by
  rcases deRodeo_spec env N doc with ⟨r, h1, h2, _, _, h5, h6, h7⟩ | h
  · exact Or.inl ⟨r, h1, h2, h6, h7, h5⟩
  · exact Or.inr h

theorem reader_total (env : Env) (N : Nat) (doc : List Bytes) :
    (∃ rd, deReader env N doc = .ok rd ∧ rd.Good env ∧ ∀ j, rd.str env j = doc[j]?) ∨
    deReader env N doc = .err .serde := by
  unfold deReader
  rcases deRodeo_spec env N doc with ⟨r, h1, h2, _, _, h5, _, _⟩ | ⟨h, _⟩
  · left; simp only [h1]; exact ⟨_, rfl, Rodeo.intoReader_good h2, h5⟩
  · right; simp only [h]

theorem resolver_total (env : Env) (N : Nat) (doc : List Bytes) :
    (∃ rs, deResolver N doc = .ok rs ∧ rs.Good env ∧ rs.strings.length = doc.length ∧
        ∀ j, j < doc.length → rs.str env j = doc[j]?) ∨
    (deResolver N doc = .err .serde ∧ N < doc.length) := by
  rcases deResolver_spec env N doc with ⟨rs, h1, h2, _, h4, h5, _⟩ | h
  · exact Or.inl ⟨rs, h1, h2, h4, h5⟩
  · exact Or.inr h

/-- `ThreadedRodeo` from *any* map document: an error, or an object satisfying the full invariant of
the concurrent interner (keys dense and unique, both maps mutually consistent, counter past every
key). -/
theorem threaded_total (env : Env) (N : Nat) (doc : List (Bytes × Nat)) :
    deThreaded N doc = .err .serde ∨ ∃ t, deThreaded N doc = .ok t ∧ t.Inv env := by
  rcases deThreaded_spec env N doc with h | ⟨t, h1, h2, _⟩
  · exact Or.inl h
  · exact Or.inr ⟨t, h1, h2⟩

/-! ### What the invariants buy: every safe call on an accepted object is well-defined and consistent -/

/-- Each string the object contains is found under a key that resolves back to it, and each key it
reports resolves to one string; no lookup or resolution path faults. -/
theorem rodeo_consistent {env : Env} {r : Rodeo} (h : r.Inv env) (k : Nat) (x : Bytes) (f : Fault) :
    (r.str env k = some x → r.get env x = .ok (some k) ∧ r.resolve env k = .ok x ∧ r.tryResolve env k = .ok (some x)) ∧
    r.get env x ≠ .fault f ∧ r.iter env ≠ .fault f := by
  obtain ⟨o, ho, hs⟩ := Rodeo.get_spec h x
  refine ⟨?_, by simp [ho], ?_⟩
  · intro hk
    obtain ⟨a, b, _⟩ := Rodeo.paths h k x hk
    have : o = some k := (hs k).mpr hk
    exact ⟨by rw [ho, this], a, b⟩
  · exact (Rodeo.paths_safe h k f).2.2

/-- Interning into an accepted `Rodeo` keeps working: never a fault (see also C14). -/
theorem rodeo_usable {env : Env} {r : Rodeo} (h : r.Inv env) (x : Bytes) (g : Bool) (f : Fault) :
    r.tryIntern env x g ≠ .fault f ∧ r.tryIntern env x g ≠ .panic := by
  rw [Rodeo.tryIntern_eq h]
  have := Rodeo.findOr_safe env r x (Arena.store_no_fault h.wf x) (Arena.store_no_panic x)
  exact ⟨this.1 f, this.2⟩

/-- An accepted `ThreadedRodeo`: lookups are exact, and the conversions to views do not fault (this is
the statement that was false before the repair for D4). -/
theorem threaded_consistent {env : Env} {t : Threaded} (h : t.Inv env) (k : Nat) (x : Bytes) :
    (t.get env x = some k ↔ t.str env k = some x) ∧ (∃ rs, t.intoResolver = .ok rs) ∧ (∃ rd, t.intoReader env = .ok rd) := by
  obtain ⟨rs, h1, _⟩ := Threaded.intoResolver_spec h
  obtain ⟨rd, h2, _⟩ := Threaded.intoReader_spec h
  exact ⟨Threaded.get_spec h x k, ⟨rs, h1⟩, ⟨rd, h2⟩⟩

/-- An accepted resolver: every key below the count resolves, iteration does not reach
`unreachable!()` (false before the repair for D8). -/
theorem resolver_consistent {env : Env} {rs : Resolver} (h : rs.Good env) (f : Fault) : rs.iter env ≠ .fault f := by
  have hc : ∀ ref ∈ rs.strings, ∃ y, contentOf env rs.arena.read ref = some y := by
    intro ref hr
    obtain ⟨k, hk, hek⟩ := List.getElem_of_mem hr
    obtain ⟨y, hy⟩ := h.total k hk
    refine ⟨y, ?_⟩
    simp only [Resolver.str, strAt, List.getElem?_eq_getElem hk, hek] at hy
    exact hy
  obtain ⟨l, h1, _, _⟩ := iterIn_spec env rs.arena.read rs.N rs.strings 0 (by have := h.lenLe; omega) hc
  simp [Resolver.iter, h1]

/-! ### The counter-documents of the unrepaired code (D3, D4, D7, D8), now refused -/

def cEnv : Env := { hash := fun _ => 1, pool := [] }

/-- D3: `["a","a","b"]`. -/
example : (match deRodeo cEnv 255 [[97], [97], [98]] with | .err .serde => true | _ => false) = true := by decide
/-- D4: `{"a": 6}` and `{"a": 1, "b": 1}`. -/
example : (match deThreaded 255 [([97], 6)] with | .err .serde => true | _ => false) = true := by decide
example : (match deThreaded 255 [([97], 1), ([98], 1)] with | .err .serde => true | _ => false) = true := by decide
/-- D7 / D8: more strings than the key type can index (capacity 2, three strings). -/
example : (match deRodeo cEnv 2 [[1], [2], [3]] with | .err .serde => true | _ => false) = true := by decide
example : (match deResolver 2 [[1], [2], [3]] with | .err .serde => true | _ => false) = true := by decide
/-- A well-formed document is accepted. -/
example : (match deThreaded 255 [([98], 2), ([97], 1)] with | .ok t => t.ctr == 2 | _ => false) = true := by decide

/-! ### Tie to the source: the deserialisers as effect sequences

`LassoModel/Serde.lean` mirrors the four `Deserialize` impls statement by statement.  The extractor
regenerates, in evaluation order, what each of them reads, how it pre-sizes its containers (exactly the number
of entries: the tables never grow while a document is read), that the arena is unlimited, and inside the
loop: store (`expect`), hash, probe, the rejection of a repeated string, the key check *applied to the position
of the entry* and its rejection, the push and the table insert; for the resolver the check of the last
position up front; for the concurrent interner the running maximum of the keys, the two map inserts and the
final validation (unique strings, dense keys) with its rejection.  These are the sequences the model's
`deListLoop`, `deResolver` and `deThreadedLoop`/`deThreaded` follow. -/
theorem deserialisers_follow_model :
    Extracted.deRodeoEffects =
      [.readList, .presizeExact, .presizeExact, .arenaUnlimited, .loopBegin, .store, .expectStored, .hashOne, .probe,
       .reject, .keyCheck .loopIndex, .reject, .stringsPush, .tableInsert, .loopEnd] ∧
    Extracted.deReaderEffects = Extracted.deRodeoEffects ∧
    Extracted.deResolverEffects =
      [.readList, .keyCheck .lenMinusOne, .reject, .presizeExact, .arenaUnlimited, .loopBegin, .store, .expectStored,
       .stringsPush, .loopEnd] ∧
    Extracted.deThreadedEffects =
      [.readMap, .presizeExact, .presizeExact, .arenaUnlimited, .loopBegin, .counterMax, .store, .expectStored,
       .mapInsert, .stringsInsert, .loopEnd, .finalCheck, .reject] :=
  ⟨rfl, rfl, rfl, rfl⟩

/-- Stronger than comparing sequences: the regenerated effect sequences are given a semantics
(`LassoModel/DeserInterp.lean`: every effect acts on the registers of one loop iteration - the arena, the vector,
the table, the result of the last check) and *running* them is proved to be the model's loops, for every
document and every starting state: `Rodeo` / `RodeoReader` (store, expect, hash, probe, reject a repeat, key check
on the position, reject, push, insert without growth because both containers were pre-sized exactly),
`RodeoResolver` (store, expect, push; before the loop the check of the last position), `ThreadedRodeo` (running
maximum of the keys, store, expect, the two inserts; after the loop the final validation).  A check that is not
followed by its rejection, a push before the check, a missing `expect`, a table that may grow - each changes what
the sequence computes, and this theorem no longer holds. -/
theorem deserialisers_run_the_source (env : Env) (N : Nat) :
    (∀ doc idx t ss a, interpListLoop env N Extracted.deRodeoEffects doc idx t ss a = deListLoop env N doc idx t ss a) ∧
    (∀ doc idx t ss a, interpListLoop env N Extracted.deReaderEffects doc idx t ss a = deListLoop env N doc idx t ss a) ∧
    (∀ doc ss a, interpResolverLoop Extracted.deResolverEffects doc ss a = deResolverLoop doc ss a) ∧
    (∀ n, resolverPrecheck N Extracted.deResolverEffects n = some (decide (n ≠ 0 ∧ (keyOfIndex N (n - 1)).isNone))) ∧
    (∀ doc t, interpThreadedLoop Extracted.deThreadedEffects doc t = deThreadedLoop doc t) ∧
    threadedPostcheck Extracted.deThreadedEffects = true :=
  ⟨fun doc idx t ss a => interp_deRodeo_is_model env N doc idx t ss a,
   fun doc idx t ss a => interp_deRodeo_is_model env N doc idx t ss a,
   fun doc ss a => interp_deResolver_is_model doc ss a,
   fun n => deResolver_precheck N n,
   fun doc t => interp_deThreaded_is_model doc t,
   deThreaded_postcheck⟩

/-- The code this file's theorems are about is the same under every feature configuration: the regenerated
census of conditional compilation contains import blocks, whole serde impls, optional-dependency impls and
module declarations only, and no gate inside any function body (`Lemmas/Config.lean`). -/
theorem same_code_under_every_feature_configuration :
    (Extracted.cfgGates.all fun g => g.kind != .other) = true ∧ Extracted.bodyGates.isEmpty = true :=
  Lasso.one_code_base_for_all_configurations

end Lasso.C15
