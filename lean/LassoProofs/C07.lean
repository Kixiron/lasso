import LassoProofs.C02
import LassoModel.Extracted
import LassoProofs.Lemmas.Config
import LassoProofs.Lemmas.InternInterp
/-
  C07 — failed interning changes nothing; exhaustion is reported exactly at capacity.

  In the model a failing `Rodeo` call returns an error *instead of* a new state (`Out.err` carries
  none): that the real code has mutated nothing at its early returns is what the correspondence run
  checks after every failure (full state sweep + block audit).  What is proved here: which error is
  reported in exactly which states, that the infallible variants panic in exactly those, that exactly
  `N` distinct strings are admitted, and — for the concurrent interner, whose failing call *does*
  return a changed state (counter and arena have moved) — that both maps and every lookup answer are
  unchanged.
-/
namespace Lasso.C07
open Lasso Lasso.C02

/-- Exact characterisation of every outcome of `try_get_or_intern` on a reachable interner. -/
theorem rodeo_outcome {env : Env} {r : Rodeo} (h : RodeoReach env r) (x : Bytes) (g : Bool) :
    (∃ k, r.str env k = some x ∧ r.tryIntern env x g = .ok (r, k)) ∨
    ((∀ k, r.str env k ≠ some x) ∧
      ((r.strings.length = r.N ∧ r.tryIntern env x g = .err .keySpace) ∨
       (r.strings.length < r.N ∧ x.length ≠ 0 ∧ r.arena.cur.free < x.length ∧ r.arena.usage + x.length > r.arena.max ∧
          r.tryIntern env x g = .err .memoryLimit) ∨
       (r.strings.length < r.N ∧ ∃ r', r.tryIntern env x g = .ok (r', r.strings.length) ∧
          r'.strings.length = r.strings.length + 1))) := by
  have hi := rodeo_reach_inv h
  rw [Rodeo.tryIntern_eq hi]
  rcases Rodeo.findOr_total hi x (r.arena.store x) with hp | ⟨hn, hk | ⟨hlt, he⟩⟩
  · exact Or.inl hp
  · exact Or.inr ⟨hn, Or.inl hk⟩
  · refine Or.inr ⟨hn, Or.inr ?_⟩
    rw [he]
    rcases Arena.store_total r.arena x with ⟨a', ref, hs⟩ | ⟨hs, h0, h1, h2⟩
    · exact Or.inr ⟨hlt, _, by rw [hs]; rfl, by simp [Rodeo.pushed]⟩
    · exact Or.inl ⟨hlt, h0, h1, h2, by rw [hs]; rfl⟩

/-- The key-space error is reported exactly when the string is absent and all `N` keys are in use;
never with fewer, and the `N+1`-th distinct string is never admitted. -/
theorem rodeo_keyspace_iff {env : Env} {r : Rodeo} (h : RodeoReach env r) (x : Bytes) (g : Bool) :
    r.tryIntern env x g = .err .keySpace ↔ (∀ k, r.str env k ≠ some x) ∧ r.strings.length = r.N := by
  constructor
  · intro he
    rcases rodeo_outcome h x g with ⟨k, _, hk⟩ | ⟨hn, ⟨hl, _⟩ | ⟨_, _, _, _, hm⟩ | ⟨_, r', hr, _⟩⟩
    · rw [hk] at he; simp at he
    · exact ⟨hn, hl⟩
    · rw [hm] at he; simp at he
    · rw [hr] at he; simp at he
  · rintro ⟨hn, hl⟩
    rcases rodeo_outcome h x g with ⟨k, hk, _⟩ | ⟨_, ⟨_, he⟩ | ⟨hlt, _⟩ | ⟨hlt, _⟩⟩
    · exact absurd hk (hn k)
    · exact he
    · omega
    · omega

/-- With room in the key space and in memory, a new string is admitted and gets the next key. -/
theorem rodeo_admits_below_capacity {env : Env} {r : Rodeo} (h : RodeoReach env r) (x : Bytes) (g : Bool)
    (hnew : ∀ k, r.str env k ≠ some x) (hlt : r.strings.length < r.N)
    (hmem : x.length ≤ r.arena.cur.free ∨ r.arena.usage + x.length ≤ r.arena.max) :
    ∃ r', r.tryIntern env x g = .ok (r', r.strings.length) := by
  rcases rodeo_outcome h x g with ⟨k, hk, _⟩ | ⟨_, ⟨hl, _⟩ | ⟨_, _, h1, h2, _⟩ | ⟨_, r', hr, _⟩⟩
  · exact absurd hk (hnew k)
  · omega
  · omega
  · exact ⟨r', hr⟩

/-- A key handed out for a new string was not in use: it was unknown to every safe path before. -/
theorem rodeo_new_key_fresh {env : Env} {r : Rodeo} :
    r.resolve env r.strings.length = .panic ∧ r.tryResolve env r.strings.length = .ok none ∧
    r.containsKey r.strings.length = false :=
  Rodeo.unknown_key env r r.strings.length (Nat.le_refl _)

/-- The infallible variants panic in exactly the cases where the fallible ones report an error. -/
theorem infallible_panics_iff (o : Out (Rodeo × Nat)) :
    Rodeo.expectOk o = .panic ↔ (o = .panic ∨ ∃ e, o = .err e) := by
  cases o <;> simp [Rodeo.expectOk]

/-- The static entry point fails only for lack of keys (never for memory). -/
theorem rodeo_static_outcome {env : Env} {r : Rodeo} (h : RodeoReach env r) (i : Nat) (x : Bytes)
    (hp : env.pool[i]? = some x) (g : Bool) :
    (∃ k, r.str env k = some x ∧ r.tryInternStatic env i g = .ok (r, k)) ∨
    ((∀ k, r.str env k ≠ some x) ∧
      ((r.strings.length = r.N ∧ r.tryInternStatic env i g = .err .keySpace) ∨
       (r.strings.length < r.N ∧ ∃ r', r.tryInternStatic env i g = .ok (r', r.strings.length)))) := by
  have hi := rodeo_reach_inv h
  rw [Rodeo.tryInternStatic_eq hi hp]
  rcases Rodeo.findOr_total hi x (.ok (r.arena, .static i)) with hq | ⟨hn, hk | ⟨hlt, he⟩⟩
  · exact Or.inl hq
  · exact Or.inr ⟨hn, Or.inl hk⟩
  · exact Or.inr ⟨hn, Or.inr ⟨hlt, _, he⟩⟩

/-- Concurrent interner, one thread: a failing call leaves both maps, the count and every lookup
answer unchanged (the counter and the arena may have moved, which the property permits), and the
resulting state is again a valid interner. -/
theorem threaded_fail_atomic {env : Env} {t : Threaded} (h : ThreadedReach env t) (x : Bytes) (e : Err)
    (t' : Threaded) (he : t.tryIntern env x = (t', .err e)) :
    t'.map = t.map ∧ t'.strs = t.strs ∧ t'.Inv env ∧ (∀ k y, t.str env k = some y ↔ t'.str env k = some y) ∧
    (∀ y k, t.get env y = some k ↔ t'.get env y = some k) ∧
    ((e = .memoryLimit ∧ t' = t) ∨ (e = .keySpace ∧ t.strs.length = t.N)) := by
  have hi := threaded_reach_inv h
  rcases Threaded.tryIntern_spec hi x with ⟨_, _, q⟩ | ⟨_, ⟨_, q⟩ | ⟨a', ref, _, ⟨hl, q, hi', hs⟩ | ⟨_, q, _⟩⟩⟩ <;>
    rw [q] at he <;> cases he
  · exact ⟨rfl, rfl, hi, fun _ _ => Iff.rfl, fun _ _ => Iff.rfl, Or.inl ⟨rfl, rfl⟩⟩
  · refine ⟨rfl, rfl, hi', hs, fun y k => ?_, Or.inr ⟨rfl, hl⟩⟩
    rw [Threaded.get_spec hi y k, Threaded.get_spec hi' y k]
    exact hs k y

/-- Concurrent interner: the key-space error is reported only when all `N` keys are in use. -/
theorem threaded_keyspace_only_when_full {env : Env} {t : Threaded} (h : ThreadedReach env t) (x : Bytes)
    (t' : Threaded) (he : t.tryIntern env x = (t', .err .keySpace)) : t.strs.length = t.N := by
  rcases (threaded_fail_atomic h x .keySpace t' he).2.2.2.2.2 with ⟨h1, _⟩ | ⟨_, h2⟩
  · simp at h1
  · exact h2

/-! ### Non-vacuity: a one-key type admits exactly one string -/

example : (match (Rodeo.new 1 4 1000).tryIntern C02.constEnv [1] true with
    | .ok (r, k) => decide (k = 0) && (match r.tryIntern C02.constEnv [2] true with
        | .err .keySpace => (match r.tryIntern C02.constEnv [1] true with
          | .ok (_, k') => decide (k' = 0)
          | _ => false)
        | _ => false)
    | _ => false) = true := by decide

/-! ### Tie to the source: order of effects in the single-threaded interner

For `Rodeo` a failing call returns no new state in the model.  That is faithful because in the source
both possible failures (`K::try_from_usize(..)?`, `arena.store_str(..)?`) happen before anything is
mutated: the effect sequences regenerated from the two functions are hash, probe, key check, [store],
push, table insert — in this order, and nothing else touches the fields. -/
theorem rodeo_failures_precede_mutation :
    Extracted.rodeoInternEffects = [.hashOne, .probe, .keyCheck, .store, .stringsPush, .tableInsert] ∧
    Extracted.rodeoInternStaticEffects = [.hashOne, .probe, .keyCheck, .stringsPush, .tableInsert] := by
  decide

/-- The single-threaded interner's two interning functions *are* their regenerated effect sequences: the
sequences are given a semantics (`LassoModel/InternInterp.lean`: hash; probe - an occupied entry returns its key at
once; key check for the next position with the key-space error; store with the memory error, copying path only;
push; table insert under the hash, with the re-hash closure over the new vector) and running them equals
`Rodeo.tryIntern` / `Rodeo.tryInternStatic` for every state, string and growth oracle.  Every theorem about the
model functions is therefore a theorem about what the source's statements do in the source's order. -/
theorem interning_runs_the_source (env : Env) (r : Rodeo) (grow : Bool) :
    (∀ x, interpIntern env Extracted.rodeoInternEffects r x grow = r.tryIntern env x grow) ∧
    (∀ i, interpInternStatic env Extracted.rodeoInternStaticEffects r i grow = r.tryInternStatic env i grow) :=
  ⟨fun x => interp_intern_is_model env r x grow, fun i => interp_intern_static_is_model env r i grow⟩

/-- The code this file's theorems are about is the same under every feature configuration: the regenerated
census of conditional compilation contains import blocks, whole serde impls, optional-dependency impls and
module declarations only, and no gate inside any function body (`Lemmas/Config.lean`). -/
theorem same_code_under_every_feature_configuration :
    (Extracted.cfgGates.all fun g => g.kind != .other) = true ∧ Extracted.bodyGates.isEmpty = true :=
  Lasso.one_code_base_for_all_configurations

end Lasso.C07
