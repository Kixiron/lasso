import LassoProofs.C02
import LassoModel.Serde
import LassoProofs.Lemmas.Config
/-
  C10 — keys are dense and ordered; counts and iteration agree with them.
-/
namespace Lasso.C10
open Lasso Lasso.C02

/-- Every key index below the count is in use and denotes a string, no other is; i.e. the keys in
use are exactly `0 .. len-1`, and `contains_key`, `len`, `is_empty` agree with that. -/
theorem rodeo_dense {env : Env} {r : Rodeo} (h : RodeoReach env r) (k : Nat) :
    (k < r.len ↔ ∃ x, r.str env k = some x) ∧ (r.containsKey k = true ↔ k < r.len) := by
  have hi := rodeo_reach_inv h
  refine ⟨⟨fun hk => hi.str_total k hk, fun ⟨x, hx⟩ => Rodeo.Inv.str_lt hx⟩, by simp [Rodeo.containsKey, Rodeo.len]⟩

theorem threaded_dense {env : Env} {t : Threaded} (h : ThreadedReach env t) (k : Nat) :
    (k < t.len ↔ ∃ x, t.str env k = some x) ∧ (t.containsKey k = true ↔ k < t.len) := by
  have hi := threaded_reach_inv h
  exact ⟨Threaded.lt_len_iff hi k, Threaded.resolveRef_isSome hi k⟩

/-- A string that is new gets the next index: the `i`-th distinct string interned since the last
`clear` is numbered `i`, whatever duplicates, static strings and failed calls came in between. -/
theorem rodeo_next_key {env : Env} {r r' : Rodeo} (h : RodeoReach env r) (x : Bytes) (g : Bool) (k : Nat)
    (hs : r.tryIntern env x g = .ok (r', k)) (hnew : ∀ j, r.str env j ≠ some x) :
    k = r.len ∧ r'.len = r.len + 1 := by
  rcases Rodeo.tryIntern_ok (rodeo_reach_inv h) hs with ⟨_, hk⟩ | ⟨rfl, _, _, _, hp⟩
  · exact absurd hk (hnew k)
  · exact ⟨rfl, by simp [Rodeo.len, hp.strings]⟩

theorem rodeo_next_key_static {env : Env} {r r' : Rodeo} (h : RodeoReach env r) (i : Nat) (x : Bytes)
    (hp : env.pool[i]? = some x) (g : Bool) (k : Nat)
    (hs : r.tryInternStatic env i g = .ok (r', k)) (hnew : ∀ j, r.str env j ≠ some x) :
    k = r.len ∧ r'.len = r.len + 1 := by
  rcases Rodeo.tryInternStatic_ok (rodeo_reach_inv h) hp hs with ⟨_, hk⟩ | ⟨rfl, _, _, hq⟩
  · exact absurd hk (hnew k)
  · exact ⟨rfl, by simp [Rodeo.len, hq.strings]⟩

theorem threaded_next_key {env : Env} {t t' : Threaded} (h : ThreadedReach env t) (x : Bytes) (k : Nat)
    (hs : t.tryIntern env x = (t', .ok k)) (hnew : ∀ j, t.str env j ≠ some x) :
    k = t.len ∧ t'.len = t.len + 1 := by
  rcases Threaded.tryIntern_ok (threaded_reach_inv h) hs with ⟨_, hk⟩ | ⟨rfl, _, _, _, _, _, hp⟩
  · exact absurd hk (hnew k)
  · exact ⟨rfl, by simp [Threaded.len, hp.strs]⟩

/-- A duplicate call returns the interner as it was, count included (a failed call returns no interner). -/
theorem rodeo_len_unchanged_on_present {env : Env} {r : Rodeo} (h : RodeoReach env r) (x : Bytes) (g : Bool) (k : Nat)
    (hk : r.str env k = some x) : r.tryIntern env x g = .ok (r, k) := rodeo_present_noop h x k g hk

/-- Iterating pairs yields exactly `(i, string of key i)` for `i = 0 .. len-1`, in key order. -/
theorem rodeo_iter_exact {env : Env} {r : Rodeo} (h : RodeoReach env r) :
    ∃ l, r.iter env = .ok l ∧ l.length = r.len ∧ ∀ k x, r.str env k = some x → l[k]? = some (k, x) :=
  Rodeo.iter_spec (rodeo_reach_inv h)

/-- The concurrent interner's iteration (canonicalised by key) is a permutation of its key->string map. -/
theorem insertSorted_perm (e : Nat × StrRef) (l : List (Nat × StrRef)) : (Threaded.insertSorted e l).Perm (e :: l) := by
  induction l with
  | nil => simp [Threaded.insertSorted]
  | cons a r ih =>
    unfold Threaded.insertSorted
    split
    · exact List.Perm.refl _
    · exact (List.Perm.cons a ih).trans (List.Perm.swap e a r)

theorem threaded_iter_perm (t : Threaded) : t.sortedStrs.Perm t.strs := by
  unfold Threaded.sortedStrs
  induction t.strs with
  | nil => simp
  | cons a r ih => simp only [List.foldr_cons]; exact (insertSorted_perm a _).trans (List.Perm.cons a ih)

/-! ### The iterator state machine (`next`, `next_back`, `nth_back`, `len`) -/

theorem dropLast_append_last {l : List α} {x : α} (h : l.getLast? = some x) : l.dropLast ++ [x] = l := by
  have hne : l ≠ [] := fun e => by simp [e] at h
  rw [List.getLast?_eq_some_getLast hne] at h
  exact Option.some.inj h ▸ List.dropLast_concat_getLast hne

theorem iter_next (l : List α) : iterStep l .next = (l.tail, l.head?.map Sum.inl) := by
  cases l <;> simp [iterStep]

theorem iter_len (l : List α) : iterStep l .len = (l, some (Sum.inr l.length)) := rfl

theorem iter_nextBack (l : List α) : iterStep l .nextBack = (l.dropLast, l.getLast?.map Sum.inl) := by
  unfold iterStep
  cases h : l.getLast? with
  | none => simp [List.getLast?_eq_none_iff.mp h]
  | some x => simp

/-- Every step leaves a *contiguous* part of what was left (nothing is yielded twice, nothing is
reordered), the remaining length after `next`/`next_back` drops by exactly one when an item is
produced, and an exhausted iterator stays exhausted (`None` forever). -/
theorem iter_step_infix (l : List α) (s : IterStep) : ∃ pre post, l = pre ++ (iterStep l s).1 ++ post := by
  cases s with
  | next => cases l with
    | nil => exact ⟨[], [], rfl⟩
    | cons x r => exact ⟨[x], [], by simp [iterStep]⟩
  | nextBack =>
    rw [iter_nextBack]
    cases h : l.getLast? with
    | none => exact ⟨[], [], by simp [List.getLast?_eq_none_iff.mp h]⟩
    | some x =>
      refine ⟨[], [x], ?_⟩
      simp only [List.nil_append]
      exact (dropLast_append_last h).symm
  | nthBack n =>
    simp only [iterStep]
    by_cases hn : n < l.length
    · simp only [hn, ↓reduceIte]
      cases hk : (l.take (l.length - n)).getLast? with
      | none => exact ⟨[], l, by simp⟩
      | some x =>
        refine ⟨[], x :: l.drop (l.length - n), ?_⟩
        simp only [List.nil_append]
        have := dropLast_append_last hk
        calc l = l.take (l.length - n) ++ l.drop (l.length - n) := (List.take_append_drop _ _).symm
          _ = ((l.take (l.length - n)).dropLast ++ [x]) ++ l.drop (l.length - n) := by rw [this]
          _ = _ := by simp
    · simp only [hn, ↓reduceIte]
      exact ⟨[], l, by simp⟩
  | len => exact ⟨[], [], by simp [iterStep]⟩

theorem iter_exhausted_stays (s : IterStep) : iterStep ([] : List α) s = ([], match s with
    | .len => some (Sum.inr 0)
    | _ => none) := by
  cases s <;> simp [iterStep]

theorem iter_item_drops_one (l : List α) (x : α) :
    ((iterStep l .next).2 = some (Sum.inl x) → (iterStep l .next).1.length + 1 = l.length) ∧
    ((iterStep l .nextBack).2 = some (Sum.inl x) → (iterStep l .nextBack).1.length + 1 = l.length) := by
  constructor
  · cases l <;> simp [iterStep]
  · rw [iter_nextBack]
    cases h : l.getLast? with
    | none => simp
    | some y =>
      intro _
      have hl : (l.dropLast ++ [y]).length = l.length := by rw [dropLast_append_last h]
      simpa using hl

/-- The code this file's theorems are about is the same under every feature configuration: the regenerated
census of conditional compilation contains import blocks, whole serde impls, optional-dependency impls and
module declarations only, and no gate inside any function body (`Lemmas/Config.lean`). -/
theorem same_code_under_every_feature_configuration :
    (Extracted.cfgGates.all fun g => g.kind != .other) = true ∧ Extracted.bodyGates.isEmpty = true :=
  Lasso.one_code_base_for_all_configurations

end Lasso.C10
