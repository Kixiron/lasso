import LassoProofs.C02
import LassoModel.Wrap
import LassoModel.Extracted
import LassoProofs.Lemmas.Config
/-
  C17 — trait, reference, boxed and collection-trait access equal the inherent methods.

  The meaning of a call through a wrapper route is *defined* by following the forwarding table that
  the extractor regenerates from `interface/*.rs` (`Wrap.resolveMethod`); the driver executes the
  inherent operation the route resolves to.  So "wrapped run = inherent run, same results and same
  state" holds for every history exactly when every route resolves every method to the inherent
  method of the same name — which is the kernel-decided statement below.
-/
namespace Lasso.C17
open Lasso Lasso.C02 Lasso.Source

def internerMethods : List Method := [.getOrIntern, .tryGetOrIntern, .getOrInternStatic, .tryGetOrInternStatic]
def readerMethods : List Method := [.get, .contains]
def resolverMethods : List Method := [.resolve, .tryResolve, .containsKey, .len, .isEmpty]

def rodeoInternerRoutes : List (List Wrapper) :=
  [[.rodeo], [.refMut, .rodeo], [.refMut, .refMut, .rodeo], [.box, .rodeo], [.refMut, .box, .rodeo], [.box, .box, .rodeo],
   [.box, .refMut, .rodeo]]
def threadedInternerRoutes : List (List Wrapper) :=
  [[.threaded], [.threadedRef, .threaded], [.refMut, .threaded], [.refMut, .threadedRef, .threaded], [.box, .threaded],
   [.box, .threadedRef, .threaded]]
def queryRoutes (base : Wrapper) : List (List Wrapper) :=
  [[base], [.ref, base], [.ref, .ref, base], [.refMut, base], [.box, base], [.ref, .box, base], [.box, .ref, base]]

/-- Every interning method through every route reaches the inherent method of the same name. -/
theorem interner_routes_identity :
    ((rodeoInternerRoutes ++ threadedInternerRoutes).all fun route => internerMethods.all fun m =>
      Wrap.resolveMethod Extracted.forwards route m == some m) = true := by decide +kernel

/-- Every lookup / resolution method through every route (shared or exclusive reference, box, nested)
on each of the four containers reaches the inherent method of the same name. -/
theorem query_routes_identity :
    (([Wrapper.rodeo, .threaded, .reader].all fun base => (queryRoutes base).all fun route =>
        (readerMethods ++ resolverMethods).all fun m => Wrap.resolveMethod Extracted.forwards route m == some m) &&
     ((queryRoutes .resolver).all fun route => resolverMethods.all fun m =>
        Wrap.resolveMethod Extracted.forwards route m == some m)) = true := by decide +kernel

/-- `resolve_unchecked` through the traits: the inherent unchecked method for the vector containers;
for the concurrent interner (which has none) the *checked* `resolve`. -/
theorem resolve_unchecked_routes :
    (([Wrapper.rodeo, .reader, .resolver].all fun base => (queryRoutes base).all fun route =>
        Wrap.resolveMethod Extracted.forwards route .resolveUnchecked == some .resolveUnchecked) &&
     ((queryRoutes .threaded).all fun route =>
        Wrap.resolveMethod Extracted.forwards route .resolveUnchecked == some .resolve)) = true := by decide +kernel

/-- The conversions into views through the traits — on the value, on a box, on a boxed trait object
(`into_*_boxed`) — reach the inherent conversion. -/
theorem conversion_routes_identity :
    (([[Wrapper.rodeo], [.box, .rodeo], [.threaded], [.box, .threaded]].all fun route =>
        Wrap.resolveMethod Extracted.forwards route .intoReader == some .intoReader &&
        Wrap.resolveMethod Extracted.forwards route .intoResolver == some .intoResolver) &&
     ([[Wrapper.reader], [.box, .reader]].all fun route =>
        Wrap.resolveMethod Extracted.forwards route .intoResolver == some .intoResolver)) = true := by decide +kernel

/-- Hence a `via <route> <op>` line of any history denotes the very same inherent operation: the
wrapped run and the inherent run are the same run (same results, same resulting state). -/
theorem via_is_inherent (route : String) (layers : List Wrapper) (op : String) (m : Method) (args : List String)
    (hr : Wrap.parseRoute route = some layers) (ho : Wrap.opToMethod op = some m)
    (hid : Wrap.resolveMethod Extracted.forwards layers m = some m) (hback : Wrap.methodToOp m = some op) :
    Wrap.resolveVia Extracted.forwards route (op :: args) = some (op :: args) := by
  simp [Wrap.resolveVia, hr, ho, hid, hback]

/-! ### Collection traits -/

/-- `extend` is the explicit sequence of `get_or_intern` calls: when it runs to the end, the
interner is the one reached by the history that interns the items one by one, in order (with some
table-growth oracle per call, which no result depends on). -/
theorem extend_is_intern_sequence (env : Env) (r : Rodeo) (xs : List Bytes) (r' : Rodeo)
    (h : r.extend env xs = (r', true)) :
    ∃ gs : List Bool, gs.length = xs.length ∧ r' = r.run env (List.zipWith ROp.intern xs gs) := by
  induction xs generalizing r with
  | nil => simp [Rodeo.extend] at h; exact ⟨[], rfl, by simp [Rodeo.run, h]⟩
  | cons x rest ih =>
    unfold Rodeo.extend at h
    cases hs : r.tryIntern env x (growAt r.strings.length) with
    | ok p =>
      simp only [hs] at h
      obtain ⟨gs, hl, he⟩ := ih p.1 h
      refine ⟨growAt r.strings.length :: gs, by simp [hl], ?_⟩
      simp only [List.zipWith_cons_cons, Rodeo.run, List.foldl_cons, Rodeo.apply, hs]
      exact he
    | _ => simp [hs] at h

/-- Consequently: every item ends up interned, duplicates collapse onto one key, and nothing that
was interned before changes its key. -/
theorem extend_contents {env : Env} {r r' : Rodeo} (hr : RodeoReach env r) (xs : List Bytes)
    (h : r.extend env xs = (r', true)) :
    r'.Inv env ∧ (∀ k y, r.str env k = some y → r'.str env k = some y) ∧ ∀ x ∈ xs, ∃ k, r'.str env k = some x := by
  -- only the invariant of `r` is used: no history has to be extended
  have hi := rodeo_reach_inv hr
  clear hr
  induction xs generalizing r with
  | nil =>
    simp [Rodeo.extend] at h; subst h
    exact ⟨hi, fun _ _ h => h, by simp⟩
  | cons x rest ih =>
    unfold Rodeo.extend at h
    cases he : r.tryIntern env x (growAt r.strings.length) with
    | ok p =>
      simp only [he] at h
      have m := Rodeo.tryIntern_minted hi he
      obtain ⟨h1, h2, h3⟩ := ih h m.inv
      refine ⟨h1, fun j y hj => h2 j y (m.old j y hj), ?_⟩
      intro y hy
      rcases List.mem_cons.mp hy with rfl | hy
      · exact ⟨p.2, h2 p.2 _ m.str⟩
      · exact h3 y hy
    | _ => simp [he] at h

/-- `from_iter` is `extend` on a fresh default-capacity interner, independent of the size hint. -/
theorem fromIter_is_extend (env : Env) (N : Nat) (xs : List Bytes) :
    Rodeo.fromIter env N xs = (Rodeo.new N 4096 18446744073709551615).extend env xs := rfl

/-! ### Tie to the source: the collection traits, statement by statement

`Extracted.*ExtendEffects` / `*FromIterEffects` are regenerated from `impl Extend` / `impl FromIterator` of both
interners.  Statements that only compute locals (the iterator, the size hint, the capacity) are `.pure` and
dropped; what remains must be exactly the model's `Rodeo.extend` / `Rodeo.fromIter` (`Threaded.*`): one
infallible `get_or_intern(item.as_ref())` per item, in order, on `self` - resp. on an interner built with the
default byte capacity, no limit and a default hasher (the hint only pre-sizes the tables), which is then returned.
An early `return`, a condition around the call, a skipped or doubled item, another constructor show up as an
unrecognised or different effect. -/
def collBody (e : List Source.CollEffect) : List Source.CollEffect := e.filter (· != .pure)

def isExtendLoop (e : List Source.CollEffect) : Bool := collBody e == [.loopBegin, .internItem, .loopEnd]

def isFromIter (e : List Source.CollEffect) : Bool :=
  collBody e == [.buildWithHint, .loopBegin, .internItem, .loopEnd, .returnBuilt] ||
  collBody e == [.buildDefault, .loopBegin, .internItem, .loopEnd, .returnBuilt]

theorem collection_traits_follow_model :
    isExtendLoop Extracted.rodeoExtendEffects = true ∧ isExtendLoop Extracted.threadedExtendEffects = true ∧
    isFromIter Extracted.rodeoFromIterEffects = true ∧ isFromIter Extracted.threadedFromIterEffects = true := by
  decide

/-- Indexing by key is the checked `resolve`, including the panic on an unknown key (the driver runs
the same model function for both; on the real code `Index::index` forwards to `resolve`). -/
theorem index_is_resolve (env : Env) (r : Rodeo) (k : Nat) (hk : r.strings.length ≤ k) :
    r.resolve env k = .panic := (Rodeo.unknown_key env r k hk).1

/-- The code this file's theorems are about is the same under every feature configuration: the regenerated
census of conditional compilation contains import blocks, whole serde impls, optional-dependency impls and
module declarations only, and no gate inside any function body (`Lemmas/Config.lean`). -/
theorem same_code_under_every_feature_configuration :
    (Extracted.cfgGates.all fun g => g.kind != .other) = true ∧ Extracted.bodyGates.isEmpty = true :=
  Lasso.one_code_base_for_all_configurations

end Lasso.C17
