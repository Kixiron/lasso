import LassoProofs.Lemmas.ConcArenaHist
import LassoProofs.Lemmas.ConcArenaIds
import LassoProofs.Lemmas.ConcArenaSolo
import LassoProofs.Lemmas.ConcArenaSeq
import LassoModel.Extracted
import LassoProofs.Lemmas.Config
import LassoProofs.Lemmas.Release
/-
  C05 — concurrent storage integrity: exclusive regions, no torn strings, no lost block, ordering.

  Quantified over: any number of threads, any programs (lists of strings to store), any first-block
  capacity and memory limit, *every* schedule at the granularity of the schedule points of
  `LockfreeArena::store_str` / `try_inc_length` / `push_front` (each atomic load, compare-exchange and
  the copy are separate steps), and every pattern of spurious `compare_exchange_weak` failures
  (`run` takes a list of `(thread, spurious)`; entries naming a finished thread are no-ops).
-/
namespace Lasso.C05
open Lasso Lasso.CA

section
variable (cap max : Nat) (programs : List (List Bytes))

/-- The state reached by `sched` from a fresh arena. -/
abbrev R (sched : List (Nat × Bool)) : AS := run (init cap max programs) sched

theorem logNd (sched : List (Nat × Bool)) : LogNd (R cap max programs sched) :=
  run_logNd sched (init_inv cap max programs) List.Pairwise.nil

/-- **Regions handed to different calls never overlap**: any two successful calls (two different
entries of the history, whichever threads made them) that were placed in the same block were given
disjoint byte ranges; calls placed in different blocks are in different allocations. -/
theorem regions_exclusive (sched : List (Nat × Bool)) :
    (R cap max programs sched).log.Pairwise fun e1 e2 =>
      ∀ b o1 o2, e1.2.2 = .ok b o1 → e2.2.2 = .ok b o2 →
        o1 + e1.2.1.length ≤ o2 ∨ o2 + e2.2.1.length ≤ o1 := by
  have hi := reach_inv cap max programs sched
  refine (logNd cap max programs sched).imp_of_mem ?_
  intro e1 e2 h1 h2 hne b o1 o2 r1 r2
  obtain ⟨bk, hbk, hid, c1⟩ := (logged_ok r1).1 (hi.logOk e1 h1)
  obtain ⟨bk', hbk', hid', c2⟩ := (logged_ok r2).1 (hi.logOk e2 h2)
  cases eq_of_nodup_map hi.ids hbk hbk' (hid.trans hid'.symm)
  -- two claims of one block are the same claim or disjoint; the same it is not, the two regions being different
  rcases tiled_disjoint (hi.tiled bk hbk) c1 c2 with h | h | h
  · injection h with ho
    exact absurd (ho ▸ r2) (hne b o1 r1)
  · exact .inl h
  · exact .inr h

/-- Every region lies inside the reserved part of its block, and that inside the block's capacity. -/
theorem region_in_block (sched : List (Nat × Bool)) (e : Nat × Bytes × ARes) (b o : Nat)
    (he : e ∈ (R cap max programs sched).log) (hr : e.2.2 = .ok b o) :
    ∃ bk ∈ (R cap max programs sched).buckets, bk.id = b ∧ o + e.2.1.length ≤ bk.len ∧ bk.len ≤ bk.cap := by
  have hi := reach_inv cap max programs sched
  obtain ⟨bk, hbk, hid, c⟩ := (logged_ok hr).1 (hi.logOk e he)
  exact ⟨bk, hbk, hid, (tiled_mem_lt (hi.tiled bk hbk) c).1, hi.fit bk hbk⟩

/-- **No string is torn or altered afterwards**: once a call has returned `(block, offset)` for `x`,
then in every later state — after any continuation of the schedule — the block is still in the arena,
the region `[offset, offset+|x|)` is a completed reservation holding exactly `x`, and no other
reservation starts at that offset. -/
theorem stored_bytes_stable (sched more : List (Nat × Bool)) (e : Nat × Bytes × ARes) (b o : Nat)
    (he : e ∈ (R cap max programs sched).log) (hr : e.2.2 = .ok b o) :
    ∃ bk ∈ (run (R cap max programs sched) more).buckets, bk.id = b ∧
      ({ off := o, n := e.2.1.length, data := some e.2.1 } : Claim) ∈ bk.claims ∧
      ∀ c ∈ bk.claims, c.off = o → c.data = some e.2.1 := by
  have hi : AInv cap (run (R cap max programs sched) more) := run_inv more (reach_inv cap max programs sched)
  obtain ⟨bk, hbk, hid, c⟩ := (logged_ok hr).1 (hi.logOk e ((run_log_suffix more _).subset he))
  exact ⟨bk, hbk, hid, c, fun c' hc' ho => by rw [tiled_off_unique (hi.tiled bk hbk) hc' c ho]⟩

/-- A reservation whose bytes are not yet complete is always the region some thread is copying into
right now: no reader can have been handed it (results are logged only after the copy). -/
theorem incomplete_region_is_private (sched : List (Nat × Bool)) (bk : ABucket) (c : Claim)
    (hb : bk ∈ (R cap max programs sched).buckets) (hc : c ∈ bk.claims) (hd : c.data = none) :
    (∃ (t : Nat) (th : AThread) (x : Bytes), (R cap max programs sched).ts[t]? = some th ∧ th.pc = .copy x bk.id c.off) ∧
    ∀ e ∈ (R cap max programs sched).log, e.2.2 ≠ .ok bk.id c.off := by
  have hi := reach_inv cap max programs sched
  obtain ⟨t, th, x, ht, hcp⟩ := hi.unfilled bk hb c hc hd
  exact ⟨⟨t, th, x, ht, copies_eq_some.1 hcp⟩, hi.open_unlogged hb hc hd⟩

/-- **No storage block is lost**: a published block stays published (same identity and capacity)
under every continuation, and its successor in the walk order never changes — a reader walking the
list while other threads push new blocks visits every block that was in the list when it started. -/
theorem published_blocks_stay (sched more : List (Nat × Bool)) (b : ABucket) (hb : b ∈ (R cap max programs sched).buckets) :
    (∃ b' ∈ (run (R cap max programs sched) more).buckets, b'.id = b.id ∧ b'.cap = b.cap) ∧
    succOf (run (R cap max programs sched) more).buckets b.id = succOf (R cap max programs sched).buckets b.id :=
  ⟨run_keeps more _ b hb, run_walk more (reach_inv cap max programs sched) b.id ⟨b, hb, rfl⟩⟩

/-- **No storage block is lost, ever**: in every reachable state every block that was ever allocated is
either in the list or owned by the one thread that is between allocating and publishing it … -/
theorem every_block_accounted_for (sched : List (Nat × Bool)) : AllIds (R cap max programs sched) :=
  run_allIds sched (init_inv cap max programs) (init_allIds cap max programs)

/-- … so when all threads are done the list holds every block that was ever allocated. -/
theorem quiescent_no_block_lost (sched : List (Nat × Bool)) (hq : quiescent (R cap max programs sched) = true) :
    ∀ i, i < (R cap max programs sched).nextId → ∃ b ∈ (R cap max programs sched).buckets, b.id = i :=
  quiescent_all_published (every_block_accounted_for cap max programs sched) hq

/-- Block identities are unique and every block respects its capacity, in every reachable state. -/
theorem blocks_wellformed (sched : List (Nat × Bool)) :
    ((R cap max programs sched).buckets.map (·.id)).Nodup ∧
    ∀ b ∈ (R cap max programs sched).buckets, b.len ≤ b.cap ∧ Tiled b.len b.claims :=
  let hi := reach_inv cap max programs sched
  ⟨hi.ids, fun b hb => ⟨hi.fit b hb, hi.tiled b hb⟩⟩

/-- Release at the end of a concurrent run: once all threads are done, dropping the arena runs the walk of
`impl Drop for AtomicBucketList` (interpreted from its regenerated statements, `Lemmas/Release.lean`) over the list
as the racing pushes left it - it frees every node of that list exactly once; by `quiescent_no_block_lost` these
are all the blocks ever allocated, and their identities are distinct: nothing leaks, nothing is freed twice,
whatever the schedule was. -/
theorem quiescent_drop_releases_every_block_once (sched : List (Nat × Bool)) (hq : quiescent (R cap max programs sched) = true) :
    runListDrop Extracted.listDropEffects ((R cap max programs sched).buckets.map (·.cap)) =
      some (List.range (R cap max programs sched).buckets.length) ∧
    ((R cap max programs sched).buckets.map (·.id)).Nodup ∧
    ∀ i, i < (R cap max programs sched).nextId → ∃ b ∈ (R cap max programs sched).buckets, b.id = i := by
  refine ⟨?_, (blocks_wellformed cap max programs sched).1, quiescent_no_block_lost cap max programs sched hq⟩
  have h := (walkAccepted_spec (effects := Extracted.listDropEffects) (by decide)).1 ((R cap max programs sched).buckets.map (·.cap))
  simpa using h

end

/-! ### The micro-steps are the source's logic

The machine's steps were written by hand.  Run by one thread without interference — from any state with
distinct block identities, whatever other threads did before — one `store_str` call puts the string
into the first block of the list that has room and, if none has, does exactly what the decision tree
regenerated from `LockfreeArena::store_str` on this run says (`Extracted.lockfreeGrow`: which error,
how much budget is claimed, the size of the new block, the stored capacity, placement at the head). -/
theorem solo_call_follows_source (s : AS) (x : Bytes) (rest : List Bytes) (hnd : (s.buckets.map (·.id)).Nodup)
    (ht : s.ts = [{ pc := .idle, todo := x :: rest }]) :
    ∃ sched : List (Nat × Bool), (∀ e ∈ sched, e = (0, false)) ∧
      if x.length = 0 then
        run s sched = { s with ts := [{ pc := .idle, todo := rest }], log := (0, x, .empty) :: s.log }
      else match s.buckets.find? (fits x.length) with
        | some b => run s sched = { s with ts := [{ pc := .idle, todo := rest }], log := (0, x, .ok b.id b.len) :: s.log,
                                           buckets := stored s.buckets b x }
        | none => Matches s (run s sched) rest x (Grow.eval (envOf s x) Extracted.lockfreeGrow) := by
  rw [lockfreeGrow_spec]
  exact solo_store s x rest hnd ht

/-- Run by one thread, the machine *is* the sequential lock-free arena model on which the single-thread
theorems about `ThreadedRodeo` (C01, C04, C08) are proved: related states (same blocks by identity,
capacity and reserved length, same capacity, usage, limit and next identity) stay related by one call,
and the machine logs exactly the location `LArena.store` returns (or an error when it errs). -/
theorem solo_call_is_sequential_model (s : AS) (a : LArena) (x : Bytes) (rest : List Bytes) (hR : Rel s a)
    (hnd : (s.buckets.map (·.id)).Nodup) (ht : s.ts = [{ pc := .idle, todo := x :: rest }]) :
    ∃ sched : List (Nat × Bool), (∀ e ∈ sched, e = (0, false)) ∧
      (run s sched).ts = [{ pc := .idle, todo := rest }] ∧
      match a.store x with
      | .ok (a', ref) => Rel (run s sched) a' ∧ (run s sched).log = (0, x, answerOf ref) :: s.log
      | .err _ => Rel (run s sched) a ∧ (run s sched).log = (0, x, .err) :: s.log
      | _ => False :=
  solo_is_sequential s a x rest hR hnd ht

/-! ### Ordering by synchronisation

The interleaving model above is sequentially consistent.  What the weaker orderings the source
actually uses must guarantee for the argument to carry over is a publication rule: the
compare-exchange that makes a block reachable must be a *release* operation and the load through which
a walker reaches it must be an *acquire* operation (read-modify-writes by later pushers continue the
release sequence, so the rule covers older blocks reached through newer ones); reservations inside a
block must be one atomic read-modify-write (that is the `cas` step of the model — orderings are
irrelevant for it because the reserved ranges are disjoint and the strings themselves are published
through the interner's map lock).  The theorem checks that rule against every atomic operation the
extractor found in the current source, and that there is no operation the model does not know. -/

def releasing : Source.Ord → Bool
  | .release | .acqRel | .seqCst => true
  | _ => false

def acquiring : Source.Ord → Bool
  | .acquire | .acqRel | .seqCst => true
  | _ => false

def isRmw : Source.AtomicKind → Bool
  | .cas | .casWeak => true
  | _ => false

def opOk (op : Source.AtomicOp) : Bool :=
  match op.role with
  | .headCas => isRmw op.kind && releasing op.ord
  | .walkLoad => op.kind == .load && acquiring op.ord
  | .lenCas => isRmw op.kind
  | .lenLoad | .headLoad | .nextLoad => op.kind == .load
  | .counter | .keyCounter | .audit => true
  | .unknown => false

theorem sync_table :
    (∀ op ∈ Extracted.atomicOps, opOk op = true) ∧
    (∃ op ∈ Extracted.atomicOps, op.role = .headCas) ∧
    (∃ op ∈ Extracted.atomicOps, op.role = .walkLoad) ∧
    (∃ op ∈ Extracted.atomicOps, op.role = .lenCas) := by
  decide

/-- Every publishing compare-exchange synchronises with every walking load. -/
theorem publication_synchronises :
    ∀ w ∈ Extracted.atomicOps, w.role = .headCas → ∀ r ∈ Extracted.atomicOps, r.role = .walkLoad →
      releasing w.ord = true ∧ acquiring r.ord = true := by
  decide

/-! ### The hypotheses are met by real runs -/

/-- Two threads reserve in the same block, the second after a failed exchange on a stale length. -/
def demoSched : List (Nat × Bool) :=
  [(0, false), (0, false), (0, false), (1, false), (1, false), (1, false), (0, false), (1, false), (1, false), (0, false), (1, false)]

example : (run (init 16 64 [[[1, 2, 3]], [[4, 5]]]) demoSched).log = [(1, [4, 5], .ok 0 3), (0, [1, 2, 3], .ok 0 0)] := by decide

/-- Two threads push new blocks at once (block of 2 bytes, strings of 2 bytes). -/
def demoPush : List (Nat × Bool) := (List.replicate 40 [(0, false), (1, false)]).flatten

example : ((run (init 2 64 [[[1, 2], [3, 4]], [[5, 6], [7, 8]]]) demoPush).buckets.length ≥ 3) := by decide

/-- … a quiescent state in which three blocks have been allocated and all three are in the list
(`quiescent_no_block_lost` is not vacuous), … -/
example : quiescent (run (init 2 64 [[[1, 2], [3, 4]], [[5, 6], [7, 8]]]) demoPush) = true ∧
    (run (init 2 64 [[[1, 2], [3, 4]], [[5, 6], [7, 8]]]) demoPush).nextId = 3 ∧
    ((run (init 2 64 [[[1, 2], [3, 4]], [[5, 6], [7, 8]]]) demoPush).buckets.map (·.id)) = [2, 1, 0] := by decide

/-- … and a state that satisfies the hypotheses of `solo_call_follows_source` in which the call has to
grow the arena (the block of 2 bytes is full): the tree says "double", the machine does it. -/
example : (Grow.eval (envOf (run (init 2 64 [[[1, 2], [3, 4]]]) (List.replicate 5 (0, false))) [3, 4]) Extracted.lockfreeGrow)
    = some (.grow 4 4 (some 4) .pushFront) := by decide

/-- The code this file's theorems are about is the same under every feature configuration: the regenerated
census of conditional compilation contains import blocks, whole serde impls, optional-dependency impls and
module declarations only, and no gate inside any function body (`Lemmas/Config.lean`). -/
theorem same_code_under_every_feature_configuration :
    (Extracted.cfgGates.all fun g => g.kind != .other) = true ∧ Extracted.bodyGates.isEmpty = true :=
  Lasso.one_code_base_for_all_configurations

end Lasso.C05
