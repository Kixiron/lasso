import LassoProofs.Lemmas.SerDoc
import LassoProofs.C15
import LassoModel.Extracted
import LassoProofs.Lemmas.Config
import LassoProofs.Lemmas.DeserInterp
/-
  C14 — serialisation round-trips and yields a working interner.

  `Serialize` writes the list of contents in key order (vector containers) resp. the string->raw-key
  map (concurrent interner); the round trip below is `deserialize (serialize x)` at serde's data-model
  level, which is what the driver's `roundtrip` operation executes.
-/
namespace Lasso.C14
open Lasso Lasso.C02

/-- Vector containers: the serialised form of a reachable interner is its list of contents, and
deserialising it (as `Rodeo`, `RodeoReader` or `RodeoResolver`) succeeds with the same count and the
same string under every key; the result satisfies the interner invariant, so it keeps working as an
interner (next theorem). -/
theorem rodeo_roundtrip {env : Env} {r : Rodeo} (h : RodeoReach env r) :
    ∃ cs, Rodeo.contents env r.arena.read r.strings = some cs ∧
      (∃ r', deRodeo env r.N cs = .ok r' ∧ r'.Inv env ∧ r'.len = r.len ∧ ∀ k, r'.str env k = r.str env k) ∧
      (∃ rd, deReader env r.N cs = .ok rd ∧ rd.Good env ∧ ∀ k, rd.str env k = r.str env k) ∧
      (∃ rs, deResolver r.N cs = .ok rs ∧ rs.strings.length = r.len ∧ ∀ k, k < r.len → rs.str env k = r.str env k) := by
  have hi := rodeo_reach_inv h
  obtain ⟨cs, hc, hnd, hle⟩ := Rodeo.contents_of_inv hi
  obtain ⟨hl, hs⟩ := strAt_of_contents hc
  rcases deRodeo_spec env r.N cs with ⟨r', e1, e2, _, e4, e5, _⟩ | ⟨_, hnot⟩
  · have hstr : ∀ k, r'.str env k = r.str env k := fun k => (e5 k).trans (hs k).symm
    refine ⟨cs, hc, ⟨r', e1, e2, by simp [Rodeo.len, e4, hl], hstr⟩, ?_, ?_⟩
    · exact ⟨r'.intoReader, by simp only [deReader, e1], Rodeo.intoReader_good e2, hstr⟩
    · rcases deResolver_spec env r.N cs with ⟨rs, d1, _, _, d4, d5, _⟩ | ⟨_, hbig⟩
      · exact ⟨rs, d1, by simp [Rodeo.len, d4, hl], fun k hk =>
          (d5 k (by simp [Rodeo.len] at hk; omega)).trans (hs k).symm⟩
      · omega
  · exact absurd ⟨hnd, hle⟩ hnot

/-- A deserialised interner keeps working: a string already present returns its old key and leaves
the interner unchanged; a new string receives the next key, which no existing entry uses. -/
theorem rodeo_continue {env : Env} {r' : Rodeo} (h : r'.Inv env) (x : Bytes) (g : Bool) :
    (∀ k, r'.str env k = some x → r'.tryIntern env x g = .ok (r', k)) ∧
    ((∀ k, r'.str env k ≠ some x) → ∀ r'' k, r'.tryIntern env x g = .ok (r'', k) →
        k = r'.strings.length ∧ r'.tryResolve env k = .ok none ∧ r''.str env k = some x ∧
        ∀ j y, r'.str env j = some y → r''.str env j = some y) := by
  constructor
  · intro k hk
    rw [Rodeo.tryIntern_eq h, Rodeo.findOr_present h hk]
  · intro hnew r'' k hs
    rcases Rodeo.tryIntern_ok h hs with ⟨_, hk⟩ | ⟨rfl, _, _, _, hp⟩
    · exact absurd hk (hnew k)
    · exact ⟨rfl, (Rodeo.unknown_key env r' _ (Nat.le_refl _)).2.1, hp.newStr, hp.old⟩

/-- Concurrent interner: the serialised map of a reachable interner is accepted and yields an
interner with the same count and the same string under every key. -/
theorem threaded_roundtrip {env : Env} {t : Threaded} (h : ThreadedReach env t) :
    ∃ t', deThreaded t.N (t.serDoc env) = .ok t' ∧ t'.Inv env ∧ t'.len = t.len ∧ ∀ k, t'.str env k = t.str env k := by
  have hi := threaded_reach_inv h
  obtain ⟨d1, d2, d3, d4⟩ := Threaded.serDoc_spec hi
  obtain ⟨t', e1, e2, _, e4, e5⟩ := deThreaded_accepts env t.N (t.serDoc env) d2 d3 d4 (by rw [d1]; exact hi.lenLe)
  refine ⟨t', e1, e2, by simp [Threaded.len, e4, d1], fun k => (Threaded.str_ext hi e2 (by omega) ?_ k).symm⟩
  -- a string of `t` under key `k` is the entry `(string, k + 1)` of the document
  intro k y hy
  obtain ⟨ref, hr, hc⟩ := (Threaded.str_iff hi k y).mp hy
  have hin : (y, k + 1) ∈ t.serDoc env := List.mem_filterMap.mpr ⟨(ref, k), hi.strMap k ref hr, by simp [hc]⟩
  simpa [indexOfKey] using e5 _ hin

/-- The deserialised concurrent interner keeps working: present strings keep their keys, and a new
string receives a key that collides with no existing one (this is the statement that was false
before the repair for D2, where the counter was restored one too low). -/
theorem threaded_continue {env : Env} {t' : Threaded} (h : t'.Inv env) (x : Bytes) :
    (∀ k, t'.str env k = some x → t'.tryIntern env x = (t', .ok k)) ∧
    ((∀ k, t'.str env k ≠ some x) → ∀ t'' k, t'.tryIntern env x = (t'', .ok k) →
        k = t'.strs.length ∧ t'.tryResolve env k = .ok none ∧ t''.str env k = some x ∧
        ∀ j y, t'.str env j = some y → t''.str env j = some y) := by
  constructor
  · intro k hk
    rw [Threaded.tryIntern_eq h, (Threaded.get_spec h x k).mpr hk]
  · intro hnew t'' k hs
    rcases Threaded.tryIntern_ok h hs with ⟨_, hk⟩ | ⟨rfl, _, _, _, _, _, hp⟩
    · exact absurd hk (hnew k)
    · exact ⟨rfl, (Threaded.unknown_key h _ (Nat.le_refl _)).2.1, hp.newStr, hp.old⟩

/-! ### Non-vacuity, and D2 inside the model -/
example : (match deThreaded 255 [([97], 1), ([98], 2), ([99], 3)] with
    | .ok t => (match t.tryIntern C15.cEnv [110] with
      | (t', .ok k) => decide (k = 3) && (t'.str C15.cEnv 2 == some [99])
      | _ => false)
    | _ => false) = true := by decide

/-! ### Tie to the source: the deserialisers as effect sequences

`LassoModel/Serde.lean` mirrors the four `Deserialize` impls statement by statement.  The extractor
regenerates, in evaluation order, what each of them reads, how it pre-sizes its containers (exactly the number
of entries: the tables never grow while a document is read), that the arena is unlimited, and inside the
loop: store (`expect`), hash, probe, the rejection of a repeated string, the key check *applied to the position
of the entry* and its rejection, the push and the table insert; for the resolver the check of the last
position up front; for the concurrent interner the running maximum of the keys, the two map inserts and the
final validation (unique strings, dense keys) with its rejection.  These are the sequences the model's
`deListLoop`, `deResolver` and `deThreadedLoop`/`deThreaded` follow. -/
theorem deserialisers_follow_model :
    Extracted.deRodeoEffects =
      [.readList, .presizeExact, .presizeExact, .arenaUnlimited, .loopBegin, .store, .expectStored, .hashOne, .probe,
       .reject, .keyCheck .loopIndex, .reject, .stringsPush, .tableInsert, .loopEnd] ∧
    Extracted.deReaderEffects = Extracted.deRodeoEffects ∧
    Extracted.deResolverEffects =
      [.readList, .keyCheck .lenMinusOne, .reject, .presizeExact, .arenaUnlimited, .loopBegin, .store, .expectStored,
       .stringsPush, .loopEnd] ∧
    Extracted.deThreadedEffects =
      [.readMap, .presizeExact, .presizeExact, .arenaUnlimited, .loopBegin, .counterMax, .store, .expectStored,
       .mapInsert, .stringsInsert, .loopEnd, .finalCheck, .reject] :=
  C15.deserialisers_follow_model

/-- Stronger than comparing sequences: the regenerated effect sequences are given a semantics
(`LassoModel/DeserInterp.lean`: every effect acts on the registers of one loop iteration - the arena, the vector,
the table, the result of the last check) and *running* them is proved to be the model's loops, for every
document and every starting state: `Rodeo` / `RodeoReader` (store, expect, hash, probe, reject a repeat, key check
on the position, reject, push, insert without growth because both containers were pre-sized exactly),
`RodeoResolver` (store, expect, push; before the loop the check of the last position), `ThreadedRodeo` (running
maximum of the keys, store, expect, the two inserts; after the loop the final validation).  A check that is not
followed by its rejection, a push before the check, a missing `expect`, a table that may grow - each changes what
the sequence computes, and this theorem no longer holds. -/
theorem deserialisers_run_the_source (env : Env) (N : Nat) :
    (∀ doc idx t ss a, interpListLoop env N Extracted.deRodeoEffects doc idx t ss a = deListLoop env N doc idx t ss a) ∧
    (∀ doc idx t ss a, interpListLoop env N Extracted.deReaderEffects doc idx t ss a = deListLoop env N doc idx t ss a) ∧
    (∀ doc ss a, interpResolverLoop Extracted.deResolverEffects doc ss a = deResolverLoop doc ss a) ∧
    (∀ n, resolverPrecheck N Extracted.deResolverEffects n = some (decide (n ≠ 0 ∧ (keyOfIndex N (n - 1)).isNone))) ∧
    (∀ doc t, interpThreadedLoop Extracted.deThreadedEffects doc t = deThreadedLoop doc t) ∧
    threadedPostcheck Extracted.deThreadedEffects = true :=
  C15.deserialisers_run_the_source env N

/-- The code this file's theorems are about is the same under every feature configuration: the regenerated
census of conditional compilation contains import blocks, whole serde impls, optional-dependency impls and
module declarations only, and no gate inside any function body (`Lemmas/Config.lean`). -/
theorem same_code_under_every_feature_configuration :
    (Extracted.cfgGates.all fun g => g.kind != .other) = true ∧ Extracted.bodyGates.isEmpty = true :=
  Lasso.one_code_base_for_all_configurations

end Lasso.C14
