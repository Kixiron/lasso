import LassoModel.Markers
import LassoModel.Extracted
import LassoProofs.Lemmas.Config
/-
  C19 — thread-safety markers are no stronger than the key and hasher types allow.

  The theorems are `decide`d over the struct definitions and manual marker impls regenerated from
  the source on this run, for all 16 assignments of {Send, Sync} to `K` and `S` — a finite domain,
  enumerated completely by the kernel.
-/
namespace Lasso.C19
open Lasso.Source Lasso.Markers

def containers : List TCon := [.rodeo, .threadedRodeo, .reader, .resolver]
def bools : List Bool := [true, false]

def isM (m : Marker) (c : TCon) (a : Asg) : Bool :=
  holds Extracted.structDefs Extracted.markerImpls 8 a m (containerTy c)

/-- A container is `Send` only if its key type and (where it has one) its hasher type are; it is
`Sync` only if they are `Sync`. -/
theorem markers_no_stronger :
    (containers.all fun c => bools.all fun sk => bools.all fun yk => bools.all fun ss => bools.all fun ys =>
      (!isM .send c (asgOf sk yk ss ys) || (sk && (!hasS c || ss))) &&
      (!isM .sync c (asgOf sk yk ss ys) || (yk && (!hasS c || ys)))) = true := by
  decide +kernel

/-- The documented cases: with ordinary (`Send + Sync`) keys and hashers every container can be moved
to another thread, and the concurrent interner, the reader and the resolver can be shared. -/
theorem documented_cases :
    (containers.all fun c => isM .send c (asgOf true true true true)) = true ∧
    ([TCon.threadedRodeo, .reader, .resolver].all fun c => isM .sync c (asgOf true true true true)) = true := by
  decide

/-- With the container's own manual impl set aside, do all of its fields carry the marker (the auto-trait rule
applied to the regenerated field types, manual impls of the parts - the storage blocks - included)? -/
def fieldsCarry (m : Marker) (c : TCon) (a : Asg) : Bool :=
  match Extracted.structDefs.find? (fun d => d.name == c) with
  | some d => d.fields.all fun f => holds Extracted.structDefs Extracted.markerImpls 8 a m f
  | none => false

/-- The manual `unsafe impl Send / Sync` of the single-threaded interner, the reader and the resolver claim nothing
their fields do not carry: for every assignment under which the manual impl applies, every field has the marker by
the auto-trait rule.  (A manual impl switches the compiler's own check off: a new field with interior mutability -
a `Cell` memo, an `Rc` - would otherwise stay `Sync` / `Send` silently.)  For the concurrent interner the manual
bounds are weaker than what `DashMap` asks of its key type structurally, so only the documented case - ordinary
`Send + Sync` keys and hashers - is stated for it. -/
theorem manual_impls_justified_by_fields :
    ([TCon.rodeo, .reader, .resolver].all fun c => bools.all fun sk => bools.all fun yk => bools.all fun ss => bools.all fun ys =>
      (!isM .send c (asgOf sk yk ss ys) || fieldsCarry .send c (asgOf sk yk ss ys)) &&
      (!isM .sync c (asgOf sk yk ss ys) || fieldsCarry .sync c (asgOf sk yk ss ys))) = true ∧
    fieldsCarry .send .threadedRodeo (asgOf true true true true) = true ∧
    fieldsCarry .sync .threadedRodeo (asgOf true true true true) = true := by
  decide +kernel

/-- Exactly the manual marker impls the theorems above rely on are present, in the extractor's canonical (sorted) order: the order of
impl blocks and of bounds in the source means nothing (a dropped bound or a new unconditional impl
changes this table). -/
theorem impl_table :
    (Extracted.markerImpls.map fun i => (i.ty, i.trait_, i.bounds)) =
      [(.atomicBucket, .send, []), (.atomicBucket, .sync, []), (.bucket, .send, []), (.bucket, .sync, []),
       (.reader, .send, [(.K, .send), (.S, .send)]), (.reader, .sync, [(.K, .sync), (.S, .sync)]),
       (.resolver, .send, [(.K, .send)]), (.resolver, .sync, [(.K, .sync)]),
       (.rodeo, .send, [(.K, .send), (.S, .send)]),
       (.threadedRodeo, .send, [(.K, .send), (.S, .send)]), (.threadedRodeo, .sync, [(.K, .sync), (.S, .sync)])] := by
  decide

/-- The code this file's theorems are about is the same under every feature configuration: the regenerated
census of conditional compilation contains import blocks, whole serde impls, optional-dependency impls and
module declarations only, and no gate inside any function body (`Lemmas/Config.lean`). -/
theorem same_code_under_every_feature_configuration :
    (Extracted.cfgGates.all fun g => g.kind != .other) = true ∧ Extracted.bodyGates.isEmpty = true :=
  Lasso.one_code_base_for_all_configurations

end Lasso.C19
