import LassoProofs.C02
import LassoModel.Wrap
import LassoModel.Extracted
import LassoProofs.Lemmas.Config
/-
  C16 — interning a 'static string stores that very reference, without copying.

  Provenance is explicit in the model: a reference is `arena loc`, `static i` (the caller's own
  `&'static str`, pool entry `i`: same address, same length) or `empty`.
-/
namespace Lasso.C16
open Lasso Lasso.C02 Lasso.Source

/-- A new string interned through the static entry point is held as *that reference* and the arena
is untouched (no block, no byte, no accounting change). -/
theorem rodeo_static_by_reference {env : Env} {r r' : Rodeo} (h : RodeoReach env r) (i : Nat) (x : Bytes)
    (hp : env.pool[i]? = some x) (g : Bool) (k : Nat)
    (hs : r.tryInternStatic env i g = .ok (r', k)) (hnew : ∀ j, r.str env j ≠ some x) :
    r'.strings[k]? = some (.static i) ∧ r'.arena = r.arena := by
  rcases Rodeo.tryInternStatic_ok (rodeo_reach_inv h) hp hs with ⟨_, hk⟩ | ⟨rfl, _, ha, hq⟩
  · exact absurd hk (hnew k)
  · exact ⟨by rw [hq.strings]; simp, ha⟩

/-- If an equal string is already present its existing key is returned and nothing is replaced. -/
theorem rodeo_static_present_keeps {env : Env} {r : Rodeo} (h : RodeoReach env r) (i : Nat) (x : Bytes)
    (hp : env.pool[i]? = some x) (g : Bool) (k : Nat) (hk : r.str env k = some x) :
    r.tryInternStatic env i g = .ok (r, k) := rodeo_present_noop_static h i x hp k g hk

/-- The reference stays the same on every later state until `clear`: the vector only grows. -/
theorem rodeo_ref_stable {env : Env} {r : Rodeo} (h : r.Inv env) (ops : List ROp)
    (hw : ∀ op ∈ ops, op.wellFormed env) (hnc : ∀ op ∈ ops, op.isClear = false)
    (k : Nat) (ref : StrRef) (hk : r.strings[k]? = some ref) : (r.run env ops).strings[k]? = some ref := by
  induction ops generalizing r with
  | nil => exact hk
  | cons op rest ih =>
    simp only [Rodeo.run, List.foldl_cons]
    refine ih (Rodeo.apply_inv h op (hw op (by simp))) (fun o ho => hw o (by simp [ho])) (fun o ho => hnc o (by simp [ho])) ?_
    have hkl : k < r.strings.length := (List.getElem?_eq_some_iff.mp hk).1
    cases op with
    | intern x g =>
      simp only [Rodeo.apply]
      split
      next he =>
        rcases Rodeo.tryIntern_ok h he with ⟨rfl, _⟩ | ⟨_, _, _, _, hp⟩
        · exact hk
        · rw [hp.strings, List.getElem?_append_left hkl]; exact hk
      · exact hk
    | internStatic i g =>
      simp only [Rodeo.apply]
      split
      next he =>
        rcases Rodeo.tryInternStatic_ok h (List.getElem?_eq_getElem (hw (.internStatic i g) (by simp))) he
          with ⟨rfl, _⟩ | ⟨_, _, _, hp⟩
        · exact hk
        · rw [hp.strings, List.getElem?_append_left hkl]; exact hk
      · exact hk
    | setLimit m => exact hk
    | clear => have := hnc .clear (by simp); simp [ROp.isClear] at this

/-- Views derived later hold the very same references (fields are moved wholesale). -/
theorem views_keep_references (r : Rodeo) :
    r.intoReader.strings = r.strings ∧ r.intoResolver.strings = r.strings ∧
    r.intoReader.intoResolver.strings = r.strings := ⟨rfl, rfl, rfl⟩

/-- Concurrent interner (one thread): same statement. -/
theorem threaded_static_by_reference {env : Env} {t t' : Threaded} (h : ThreadedReach env t) (i : Nat) (x : Bytes)
    (hp : env.pool[i]? = some x) (k : Nat)
    (hs : t.tryInternStatic env i = (t', .ok k)) (hnew : ∀ j, t.str env j ≠ some x) :
    t'.resolveRef k = some (.static i) ∧ t'.arena = t.arena := by
  rcases Threaded.tryInternStatic_ok (threaded_reach_inv h) hp hs with ⟨_, hk⟩ | ⟨rfl, _, rfl, _⟩
  · exact absurd hk (hnew k)
  · exact ⟨by simp [Threaded.resolveRef, Threaded.pushState, assocGet_cons], rfl⟩

/-! ### Every route to the static entry points reaches a static inherent method

`Wrap.resolveMethod` follows the forwarding table regenerated from `interface/*.rs` on this run. -/

/-- The routes the property names: inherent via the trait, `&mut T`, `&ThreadedRodeo`, `Box<T>`,
`Box<dyn Interner>`, and nestings. -/
def interningRoutes : List (List Wrapper) :=
  [[.rodeo], [.refMut, .rodeo], [.refMut, .refMut, .rodeo], [.box, .rodeo], [.refMut, .box, .rodeo],
   [.box, .box, .rodeo], [.box, .refMut, .rodeo],
   [.threaded], [.threadedRef, .threaded], [.refMut, .threaded], [.refMut, .threadedRef, .threaded],
   [.box, .threaded], [.box, .threadedRef, .threaded]]

/-- Both static trait methods, through every route, end in the inherent method of the same name —
in particular never in a copying (`try_get_or_intern`) one.  Fails on the unrepaired
`Box<I>::try_get_or_intern_static` (D5). -/
theorem static_routes :
    interningRoutes.all (fun route =>
      Wrap.resolveMethod Extracted.forwards route .tryGetOrInternStatic == some .tryGetOrInternStatic &&
      Wrap.resolveMethod Extracted.forwards route .getOrInternStatic == some .getOrInternStatic) = true := by
  decide +kernel

/-- The code this file's theorems are about is the same under every feature configuration: the regenerated
census of conditional compilation contains import blocks, whole serde impls, optional-dependency impls and
module declarations only, and no gate inside any function body (`Lemmas/Config.lean`). -/
theorem same_code_under_every_feature_configuration :
    (Extracted.cfgGates.all fun g => g.kind != .other) = true ∧ Extracted.bodyGates.isEmpty = true :=
  Lasso.one_code_base_for_all_configurations

end Lasso.C16
