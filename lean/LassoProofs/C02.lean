import LassoProofs.Lemmas.Paths
import LassoProofs.Lemmas.THistory
import LassoModel.Extracted
import LassoProofs.Lemmas.Config
import LassoProofs.Lemmas.InternInterp
/-
  C02 — canonical keys: equal strings share one key, different strings never do; lookups answer
  exactly "interned or not"; interning a present string changes nothing.

  Every statement is for an arbitrary hash function (`env.hash`, a constant one included) and an
  arbitrary table-growth oracle on every insert.
-/
namespace Lasso.C02
open Lasso

/-- A state reachable by some history from a fresh interner. -/
def RodeoReach (env : Env) (r : Rodeo) : Prop :=
  ∃ N cap max ops, 0 < cap ∧ (∀ op ∈ ops, ROp.wellFormed env op) ∧ r = (Rodeo.new N cap max).run env ops

def ThreadedReach (env : Env) (t : Threaded) : Prop :=
  ∃ N cap max ops, 0 < cap ∧ (∀ op ∈ ops, TOp.wellFormed env op) ∧ t = (Threaded.new N cap max).run env ops

theorem rodeo_reach_inv {env : Env} {r : Rodeo} (h : RodeoReach env r) : r.Inv env := by
  obtain ⟨N, cap, max, ops, hc, hw, rfl⟩ := h
  exact Rodeo.run_inv (Rodeo.new_inv env N cap max hc) ops hw

theorem threaded_reach_inv {env : Env} {t : Threaded} (h : ThreadedReach env t) : t.Inv env := by
  obtain ⟨N, cap, max, ops, hc, hw, rfl⟩ := h
  exact (Threaded.run_inv_keeps (Threaded.new_inv env N cap max hc) ops hw).1

/-- String-to-key lookup never faults and finds key `k` exactly when key `k` holds that string —
hence it answers `none` exactly for strings that are not interned. -/
theorem rodeo_get_exact {env : Env} {r : Rodeo} (h : RodeoReach env r) (x : Bytes) :
    ∃ o, r.get env x = .ok o ∧ (∀ k, o = some k ↔ r.str env k = some x) ∧
      (o = none ↔ ∀ k, r.str env k ≠ some x) := by
  obtain ⟨o, h1, h2⟩ := Rodeo.get_spec (rodeo_reach_inv h) x
  refine ⟨o, h1, h2, ?_⟩
  constructor
  · intro ho k hk; rw [ho] at h2; exact absurd ((h2 k).mpr hk) (by simp)
  · intro hn
    cases o with
    | none => rfl
    | some k => exact absurd ((h2 k).mp rfl) (hn k)

theorem threaded_get_exact {env : Env} {t : Threaded} (h : ThreadedReach env t) (x : Bytes) (k : Nat) :
    t.get env x = some k ↔ t.str env k = some x :=
  Threaded.get_spec (threaded_reach_inv h) x k

/-- Interning a string that is present returns its key and leaves the interner unchanged *as a
value*: count, keys, table, arena and memory usage are all the same. -/
theorem rodeo_present_noop {env : Env} {r : Rodeo} (h : RodeoReach env r) (x : Bytes) (k : Nat) (g : Bool)
    (hk : r.str env k = some x) : r.tryIntern env x g = .ok (r, k) := by
  rw [Rodeo.tryIntern_eq (rodeo_reach_inv h), Rodeo.findOr_present (rodeo_reach_inv h) hk]

theorem rodeo_present_noop_static {env : Env} {r : Rodeo} (h : RodeoReach env r) (i : Nat) (x : Bytes)
    (hp : env.pool[i]? = some x) (k : Nat) (g : Bool)
    (hk : r.str env k = some x) : r.tryInternStatic env i g = .ok (r, k) := by
  rw [Rodeo.tryInternStatic_eq (rodeo_reach_inv h) hp, Rodeo.findOr_present (rodeo_reach_inv h) hk]

theorem threaded_present_noop {env : Env} {t : Threaded} (h : ThreadedReach env t) (x : Bytes) (k : Nat)
    (hk : t.str env k = some x) : t.tryIntern env x = (t, .ok k) := by
  rw [Threaded.tryIntern_eq (threaded_reach_inv h), (Threaded.get_spec (threaded_reach_inv h) x k).mpr hk]

/-- Two interning requests on the same interner (any history in between that does not clear it)
return the same key if and only if their strings are equal. -/
theorem rodeo_same_key_iff {env : Env} {r0 : Rodeo} (h : RodeoReach env r0)
    (x y : Bytes) (g1 g2 : Bool) (r1 r3 : Rodeo) (k1 k2 : Nat)
    (h1 : r0.tryIntern env x g1 = .ok (r1, k1))
    (mid : List ROp) (hmid : ∀ op ∈ mid, op.wellFormed env) (hnc : ∀ op ∈ mid, op.isClear = false)
    (h2 : (r1.run env mid).tryIntern env y g2 = .ok (r3, k2)) :
    k1 = k2 ↔ x = y := by
  have m1 := Rodeo.tryIntern_minted (rodeo_reach_inv h) h1
  have m2 := Rodeo.tryIntern_minted (Rodeo.run_inv m1.inv mid hmid) h2
  exact key_eq_iff m2.inv.distinct (m2.old k1 x (Rodeo.run_keeps m1.inv mid hmid hnc k1 x m1.str)) m2.str

/-- Distinct strings held by a reachable interner never share a key, and one string never has two. -/
theorem rodeo_keys_injective {env : Env} {r : Rodeo} (h : RodeoReach env r) (i j : Nat) (x y : Bytes)
    (hi : r.str env i = some x) (hj : r.str env j = some y) : i = j ↔ x = y :=
  key_eq_iff (rodeo_reach_inv h).distinct hi hj

theorem threaded_keys_injective {env : Env} {t : Threaded} (h : ThreadedReach env t) (i j : Nat) (x y : Bytes)
    (hi : t.str env i = some x) (hj : t.str env j = some y) : i = j ↔ x = y :=
  key_eq_iff (threaded_reach_inv h).distinct hi hj

/-- The rehash closure of the source re-places every entry where it already is: table growth is
unobservable (this is the statement that fails for a closure hashing the key instead of the string). -/
theorem rodeo_growth_unobservable {env : Env} {r : Rodeo} (h : RodeoReach env r) :
    rehashAll (rehashFn env r.arena.read r.strings) r.table = some r.table :=
  rehashAll_id (hash := env.hash) (S := strAt env r.arena.read r.strings) (rodeo_reach_inv h).tinv.placed

/-! ### Non-vacuity and a negative companion -/

def constEnv : Env := { hash := fun _ => 7, pool := [] }

/-- Under a constant hasher two different strings still get different keys, equal ones the same. -/
example : (match (Rodeo.new 255 2 1000).tryIntern constEnv [1] true with
    | .ok (r, k1) => (match r.tryIntern constEnv [2] true with
      | .ok (r', k2) => (match r'.tryIntern constEnv [1] true with
        | .ok (_, k3) => decide (k1 = 0 ∧ k2 = 1 ∧ k3 = 0)
        | _ => false)
      | _ => false)
    | _ => false) = true := by decide

/-- A rehash closure that hashes the *key index* instead of the string breaks the placement
invariant at the first growth: the string is no longer found. -/
def badRehash (k : Nat) : Option UInt64 := some k.toUInt64
example : (match tableInsert [((fun (_ : Bytes) => (7 : UInt64)) [1], 0)] 7 1 true badRehash with
    | .ok t => decide (tfind (fun _ => 7) (fun k => if k = 0 then some [1] else if k = 1 then some [2] else none) t [1] = none)
    | _ => false) = true := by decide

/-! ### Tie to the source

The model hashes the complete string with the table's hash function at every lookup, insert and in the
rehash closure (`env.hash`, `rehashFn`).  The extractor lists every `let hash = …`, every `hash_one`
call (or call of a private helper whose whole body is `hasher.hash_one(string)`), every hash handed to
the raw-entry API, every closure handed to a table for re-hashing its entries on resize
(`insert_with_hasher`, `find_or_find_insert_slot`, `shrink_to`) and every piece of hand-rolled hashing in
`rodeo.rs`, `reader.rs` and `threaded_rodeo.rs`; all of them must be `hash_one` of one whole string
(resp. the binding `hash`; for a re-hash closure: of a string the closure binds itself, never a captured
hash value).  The equality closure of every table probe (`from_hash`, `find_or_find_insert_slot`) is listed
as well (`probeEq`): it has to be `probed string == stored string`, the whole-string comparison the
model's `tableFind` makes - no shortcut through addresses, lengths, prefixes or a trusted hash. -/
theorem hash_sites_whole_string :
    (Extracted.hashSites.all fun s => s.shape == .hashOneWhole) = true ∧
    (Extracted.hashSites.any fun s => s.kind == .binding) = true ∧
    (Extracted.hashSites.any fun s => s.kind == .use) = true ∧
    (Extracted.hashSites.any fun s => s.kind == .rehash) = true ∧
    (Extracted.hashSites.any fun s => s.kind == .probeEq) = true := by
  decide

/-- Nothing happens in the four interning functions before the string has been looked up: the effect
sequences regenerated from the source (in which a `return` or `?` that precedes the lookup would show up as an
unrecognised effect) begin with the hash and the probe (`Rodeo`), resp. with the lock-free lookup
(`ThreadedRodeo`).  A string that is already present is therefore found whatever else holds (limits, sizes). -/
theorem lookup_comes_first :
    Extracted.rodeoInternEffects.take 2 = [.hashOne, .probe] ∧
    Extracted.rodeoInternStaticEffects.take 2 = [.hashOne, .probe] ∧
    Extracted.internEffects.head? = some .fastGet ∧
    Extracted.internStaticEffects.head? = some .fastGet := by
  decide

/-- The single-threaded interner's two interning functions *are* their regenerated effect sequences: the
sequences are given a semantics (`LassoModel/InternInterp.lean`: hash; probe - an occupied entry returns its key at
once; key check for the next position with the key-space error; store with the memory error, copying path only;
push; table insert under the hash, with the re-hash closure over the new vector) and running them equals
`Rodeo.tryIntern` / `Rodeo.tryInternStatic` for every state, string and growth oracle.  Every theorem about the
model functions is therefore a theorem about what the source's statements do in the source's order. -/
theorem interning_runs_the_source (env : Env) (r : Rodeo) (grow : Bool) :
    (∀ x, interpIntern env Extracted.rodeoInternEffects r x grow = r.tryIntern env x grow) ∧
    (∀ i, interpInternStatic env Extracted.rodeoInternStaticEffects r i grow = r.tryInternStatic env i grow) :=
  ⟨fun x => interp_intern_is_model env r x grow, fun i => interp_intern_static_is_model env r i grow⟩

/-- The code this file's theorems are about is the same under every feature configuration: the regenerated
census of conditional compilation contains import blocks, whole serde impls, optional-dependency impls and
module declarations only, and no gate inside any function body (`Lemmas/Config.lean`). -/
theorem same_code_under_every_feature_configuration :
    (Extracted.cfgGates.all fun g => g.kind != .other) = true ∧ Extracted.bodyGates.isEmpty = true :=
  Lasso.one_code_base_for_all_configurations

end Lasso.C02
