import LassoProofs.C06
import LassoProofs.Lemmas.Grow
import LassoProofs.C12
import LassoProofs.Lemmas.Config
import LassoProofs.Lemmas.Release
/-
  C04 — memory safety: no history of safe calls corrupts, leaks or escapes the arena.

  "Unsafe" in the model means `Out.fault`: every unchecked operation of the source (`push_slice`,
  `index_unchecked!`, `index_unchecked_mut!`, `get_unchecked`, the `unwrap`s of the scatter, the
  `unreachable!`s) is modelled as a checked one that yields a fault when its unstated precondition is
  false.  The theorems say: in every reachable state the layout facts hold, and no operation faults.

  Release (`Drop`): the last section.  The hand-written list walk of the concurrent arena is interpreted
  from its regenerated statements and proved, for every list, to free each node once with its own layout
  and never to touch a freed node; the single-threaded block frees its own pointer with the layout it was
  allocated with; no other code allocates, frees or takes a value out of the drop discipline; blocks are
  held by value along `Rodeo/ThreadedRodeo/Reader/Resolver -> arena -> blocks`; and in the model no
  operation gives a block up before the owner is dropped.  That dropping a `Vec`, an enum or a struct
  drops each element / field exactly once is Rust's drop glue (trusted); on the real code the counting
  allocator of the harness (net allocated bytes return to the baseline over every case) and the Miri tier
  stay in place as the implementation-side oracle.
-/
namespace Lasso.C04
open Lasso Lasso.C02

/-- Layout facts of every reachable single-threaded interner: no block is filled beyond its
capacity, block identities are distinct, every stored (non-static, non-empty) string occupies a
non-empty region inside the initialised part of one block *of this interner*, and regions of
different keys never overlap. -/
theorem rodeo_layout {env : Env} {r : Rodeo} (h : RodeoReach env r) :
    (∀ b ∈ r.arena.all, b.data.length ≤ b.cap) ∧ (r.arena.all.map (·.id)).Nodup ∧
    (∀ loc, StrRef.arena loc ∈ r.strings → r.arena.valid loc ∧ loc.len ≠ 0) ∧
    r.strings.Pairwise (fun a b => ∀ l m, a = .arena l → b = .arena m → l.disjoint m) := by
  have hi := rodeo_reach_inv h
  exact ⟨hi.wf.fits, hi.wf.ids, hi.valid, hi.disjoint⟩

theorem threaded_layout {env : Env} {t : Threaded} (h : ThreadedReach env t) :
    (∀ b ∈ t.arena.buckets, b.data.length ≤ b.cap) ∧ (t.arena.buckets.map (·.id)).Nodup ∧
    (∀ k loc, (k, StrRef.arena loc) ∈ t.strs → t.arena.valid loc ∧ loc.len ≠ 0) ∧
    (∀ k1 l1 k2 l2, (k1, StrRef.arena l1) ∈ t.strs → (k2, StrRef.arena l2) ∈ t.strs → k1 ≠ k2 → l1.disjoint l2) := by
  have hi := threaded_reach_inv h
  exact ⟨hi.wf.fits, hi.wf.ids, hi.valid, hi.disjoint⟩

/-- No interning call on a reachable interner faults or panics (the fallible forms), for any string
length relative to the block size and any limit — in particular the unchecked bump copy is always in
bounds. -/
theorem rodeo_intern_safe {env : Env} {r : Rodeo} (h : RodeoReach env r) (x : Bytes) (g : Bool) :
    (∀ f, r.tryIntern env x g ≠ .fault f) ∧ r.tryIntern env x g ≠ .panic := by
  rw [Rodeo.tryIntern_eq (rodeo_reach_inv h)]
  exact Rodeo.findOr_safe env r x (Arena.store_no_fault (rodeo_reach_inv h).wf x) (Arena.store_no_panic x)

theorem rodeo_intern_static_safe {env : Env} {r : Rodeo} (h : RodeoReach env r) (i : Nat) (hi : i < env.pool.length) (g : Bool) :
    (∀ f, r.tryInternStatic env i g ≠ .fault f) ∧ r.tryInternStatic env i g ≠ .panic := by
  rw [Rodeo.tryInternStatic_eq (rodeo_reach_inv h) (List.getElem?_eq_getElem hi)]
  exact Rodeo.findOr_safe env r _ (fun f => by simp) (by simp)

theorem threaded_intern_safe {env : Env} {t : Threaded} (h : ThreadedReach env t) (x : Bytes) :
    (∀ f, (t.tryIntern env x).2 ≠ .fault f) ∧ (t.tryIntern env x).2 ≠ .panic := by
  rcases Threaded.tryIntern_spec (threaded_reach_inv h) x with ⟨_, _, he⟩ | ⟨_, ⟨_, he⟩ | ⟨_, _, _, ⟨_, he, _, _⟩ | ⟨_, he, _⟩⟩⟩ <;>
    rw [he] <;> simp

/-- Lookups and every resolution path never fault (no out-of-bounds index into the key->string
table, no dangling reference). -/
theorem rodeo_queries_safe {env : Env} {r : Rodeo} (h : RodeoReach env r) (x : Bytes) (k : Nat) (f : Fault) :
    r.get env x ≠ .fault f ∧ r.resolve env k ≠ .fault f ∧ r.tryResolve env k ≠ .fault f ∧ r.iter env ≠ .fault f := by
  have hi := rodeo_reach_inv h
  obtain ⟨o, ho, _⟩ := Rodeo.get_spec hi x
  exact ⟨by simp [ho], Rodeo.paths_safe hi k f⟩

/-- Cloning never faults; clone-into never faults (it succeeds or reports the target's memory limit). -/
theorem clone_safe {env : Env} {r : Rodeo} (h : RodeoReach env r) (g : Bool) : ∃ c, r.tryClone env g = .ok c := by
  obtain ⟨c, hc, _⟩ := C12.clone_eq h g
  exact ⟨c, hc⟩

theorem clone_from_safe {env : Env} {target source : Rodeo} (ht : RodeoReach env target) (hs : RodeoReach env source)
    (hN : target.N = source.N) (g : Bool) (f : Fault) :
    Rodeo.tryCloneFrom env target source g ≠ .fault f ∧ Rodeo.tryCloneFrom env target source g ≠ .panic := by
  rcases C12.cloneFrom_fresh ht hs hN g with ⟨r', he, _⟩ | he <;> rw [he] <;> simp

/-- The conversions of the concurrent interner (scatter by key index with `index_unchecked_mut!`,
`unwrap` of every slot, rebuild of the table with `index_unchecked!`) never fault. -/
theorem threaded_conversions_safe {env : Env} {t : Threaded} (h : ThreadedReach env t) :
    (∃ rs, t.intoResolver = .ok rs) ∧ (∃ rd, t.intoReader env = .ok rd) := by
  obtain ⟨rs, h1, _⟩ := C06.threaded_into_resolver h
  obtain ⟨rd, h2, _⟩ := C06.threaded_into_reader h
  exact ⟨⟨rs, h1⟩, ⟨rd, h2⟩⟩

/-- `clear` and changing the limit keep the layout facts (they are operations of the history
language; stated separately because `clear` resets every block's fill index). -/
theorem clear_keeps_layout {env : Env} {r : Rodeo} (h : RodeoReach env r) :
    (∀ b ∈ r.clear.arena.all, b.data.length ≤ b.cap) ∧ r.clear.strings = [] :=
  ⟨(Rodeo.clear_inv (rodeo_reach_inv h)).wf.fits, rfl⟩

/-! ### Tie to the source: the growth logic of both arenas is regenerated from `store_str`

`Extracted.arenaGrow` / `Extracted.lockfreeGrow` are the decision trees the extractor translates from
the statements of `store_str` after the search for a block with room (conditions, amount claimed from
the budget, block size and how it is built, stored capacity, placement).  For every arena state and
every string the model does exactly what the tree says. -/
theorem growth_logic_is_source :
    (∀ (a : Arena) (s : Bytes), s.length ≠ 0 → ¬ s.length ≤ a.cur.free →
      (Grow.eval (a.env s) Extracted.arenaGrow).map (a.applyOutcome s) = some (a.store s)) ∧
    (∀ (a : LArena) (s : Bytes),
      (Grow.eval (a.env s) Extracted.lockfreeGrow).map (a.applyOutcome s) = some (a.grow s)) ∧
    Extracted.arenaAllocateIsCheckThenAdd = true :=
  ⟨arena_store_is_source_tree, larena_grow_is_source_tree, arena_allocate_shape⟩

/-! ### Release: every block is handed back exactly once, when the owner goes -/

/-- Source side.  The only allocator calls outside tests and hooks are the two `alloc`s of the block constructors
and the two `dealloc`s of the `Drop` impls; nothing takes a value out of the drop discipline (`forget`, `leak`,
`into_raw`, `from_raw`, `ManuallyDrop`).  `impl Drop for Bucket` frees the block's own pointer, once,
unconditionally, with the very layout expression of `Bucket::with_capacity`; the concurrent block is allocated and
freed with `AtomicBucket::layout(capacity)`. -/
theorem release_sites_are_source :
    Extracted.memSites =
      [ { file := "arenas/atomic_bucket.rs", func := "AtomicBucket::with_capacity", kind := .alloc "alloc" },
        { file := "arenas/atomic_bucket.rs", func := "AtomicBucketList::drop", kind := .dealloc "dealloc" },
        { file := "arenas/bucket.rs", func := "Bucket::drop", kind := .dealloc "dealloc" },
        { file := "arenas/bucket.rs", func := "Bucket::with_capacity", kind := .alloc "alloc" } ] ∧
    Extracted.bucketRelease.allocLayout = Extracted.bucketRelease.releaseLayout ∧
    Extracted.bucketRelease.pointerIsOwn = true ∧ Extracted.bucketRelease.deallocCalls = 1 ∧
    Extracted.bucketRelease.conditional = false ∧
    Extracted.atomicAllocLayout = Extracted.atomicReleaseLayout := by decide +kernel

/-- Field types of a struct, regenerated from the source. -/
def fields (n : Source.TCon) : List Source.TyE := ((Extracted.structDefs.filter (·.name == n)).map (·.fields)).flatten

/-- The type `C` itself: held by value, not behind a reference, pointer or counter. -/
def isPlain (c : Source.TCon) : Source.TyE → Bool
  | .app c' [] => c' == c
  | _ => false

def isVecOf (c : Source.TCon) : Source.TyE → Bool
  | .app .vec [t] => isPlain c t
  | _ => false

/-- Blocks are held by value all the way down (no reference counting, no raw sharing): the interners and the
views own an arena, the arena of a view is one of the two arenas, the single-threaded arena owns a vector of
blocks and the concurrent one the list.  So dropping the last owner runs exactly one of the two releases below. -/
theorem blocks_are_owned_by_value :
    (fields .rodeo).any (isPlain .arena) = true ∧ (fields .threadedRodeo).any (isPlain .lockfreeArena) = true ∧
    (fields .reader).any (isPlain .anyArena) = true ∧ (fields .resolver).any (isPlain .anyArena) = true ∧
    ((fields .anyArena).length = 2 ∧ (fields .anyArena).any (isPlain .arena) = true ∧
      (fields .anyArena).any (isPlain .lockfreeArena) = true) ∧
    (fields .arena).any (isVecOf .bucket) = true ∧
    (fields .lockfreeArena).any (isPlain .atomicBucketList) = true := by decide

/-- The hand-written walk of `impl Drop for AtomicBucketList`, interpreted from its regenerated statements on a
list of **every** length and with any capacities: it terminates, frees node 0, 1, .. n-1 - each exactly once,
each with the layout of its own capacity, each only after its `next` and `capacity` fields were read - and
nothing else; on the model's arena that is exactly `LArena.release`. -/
theorem list_walk_releases_every_block_once :
    (∀ caps : List Nat, runListDrop Extracted.listDropEffects caps = some (List.range caps.length)) ∧
    (∀ a : LArena, a.releaseBy Extracted.listDropEffects = some a.release) :=
  walkAccepted_spec (by decide)

/-- A walk that frees a node before reading its `next` field is rejected (the interpreter is not vacuous). -/
example : runListDrop [.loadHead, .whileHeadNonNull, .saveCurrent, .readCapacity .current, .layoutOfCapacity,
    .dealloc .current true, .advance .head, .loopEnd] [8, 16] = none := by decide
example : runListDrop Extracted.listDropEffects [8, 16, 4] = some [0, 1, 2] := by decide

/-- Single-threaded interner: whatever happened before and whatever happens afterwards (growth, `clear`, limit
changes, failed calls), every block the interner ever held is among the blocks released when it is finally
dropped - with the capacity it was allocated with - and no block is released twice. -/
theorem rodeo_blocks_released_exactly_once {env : Env} {r : Rodeo} (h : RodeoReach env r) (later : List ROp)
    (hw : ∀ op ∈ later, ROp.wellFormed env op) :
    (∀ x ∈ r.arena.release, x ∈ (r.run env later).arena.release) ∧
    ((r.run env later).arena.release.map (·.id)).Nodup :=
  ⟨fun _ hx => Rodeo.run_release env r later hx,
    Arena.release_ids_nodup (Rodeo.run_inv (rodeo_reach_inv h) later hw).wf⟩

/-- Concurrent interner (one-thread semantics; the racing allocation paths are C05's `ids` invariant). -/
theorem threaded_blocks_released_exactly_once {env : Env} {t : Threaded} (h : ThreadedReach env t) (later : List TOp)
    (hw : ∀ op ∈ later, TOp.wellFormed env op) :
    (∀ x ∈ t.arena.release, x ∈ (t.run env later).arena.release) ∧
    ((t.run env later).arena.release.map (·.id)).Nodup :=
  ⟨fun _ hx => Threaded.run_release env t later hx,
    LArena.release_ids_nodup (Threaded.run_inv_keeps (threaded_reach_inv h) later hw).1.wf⟩

/-- The views take the arena over as it is: the blocks released when the last view goes are those of the
interner it came from. -/
theorem views_release_their_sources_blocks (env : Env) (r : Rodeo) (t : Threaded) :
    r.intoReader.arena.release = r.arena.release ∧ r.intoResolver.arena.release = r.arena.release ∧
    r.intoReader.intoResolver.arena.release = r.arena.release ∧
    (∀ rd, t.intoReader env = .ok rd → rd.arena.release = t.arena.release) ∧
    (∀ rs, t.intoResolver = .ok rs → rs.arena.release = t.arena.release) := by
  refine ⟨rfl, rfl, rfl, ?_, ?_⟩
  · intro rd h
    unfold Threaded.intoReader at h
    repeat' split at h
    all_goals cases h
    all_goals rfl
  · intro rs h
    unfold Threaded.intoResolver at h
    repeat' split at h
    all_goals cases h
    all_goals rfl

/-- Non-vacuity: a grown arena, three blocks, all of them released. -/
example : (match (Arena.new 2 100).store [1, 2, 3] with
    | .ok (a, _) => a.release.map (·.cap)
    | _ => []) = [2, 4] := by decide

/-- The code this file's theorems are about is the same under every feature configuration: the regenerated
census of conditional compilation contains import blocks, whole serde impls, optional-dependency impls and
module declarations only, and no gate inside any function body (`Lemmas/Config.lean`). -/
theorem same_code_under_every_feature_configuration :
    (Extracted.cfgGates.all fun g => g.kind != .other) = true ∧ Extracted.bodyGates.isEmpty = true :=
  Lasso.one_code_base_for_all_configurations

end Lasso.C04
