import LassoModel.Arena
/-
  Sets of blocks, which both arenas are made of, and the single-threaded arena.

  `readIn`, `sumCaps` and well-formedness depend only on the *set* of blocks (ids are unique), so the first
  part is stated up to permutation, and a successful `store_str` of either arena is one of two changes of that
  set (`Stores`).  The theorems about reading, well-formedness and disjointness of `Arena.store` (here) and
  `LArena.store` (LArena.lean) are those of `Stores`.
-/
namespace Lasso


theorem sumNat_append (a b : List Nat) : sumNat (a ++ b) = sumNat a + sumNat b := by
  induction a with
  | nil => simp [sumNat]
  | cons x xs ih => simp [sumNat, ih]; omega

theorem sumCaps_append (a b : List Bucket) : sumCaps (a ++ b) = sumCaps a + sumCaps b := by
  simp [sumCaps, sumNat_append]

theorem sumCaps_cons (x : Bucket) (l : List Bucket) : sumCaps (x :: l) = x.cap + sumCaps l := rfl

theorem sumCaps_perm {a b : List Bucket} (h : a.Perm b) : sumCaps a = sumCaps b := by
  induction h with
  | nil => rfl
  | cons x _ ih => simp [sumCaps_cons, ih]
  | swap x y l => simp [sumCaps_cons]; omega
  | trans _ _ ih1 ih2 => exact ih1.trans ih2

/-! ### Reading -/

theorem readIn_cons (b : Bucket) (bs : List Bucket) (loc : Loc) :
    readIn (b :: bs) loc = if b.id = loc.bid then b.readAt loc.off loc.len else readIn bs loc := by
  unfold readIn
  by_cases h : b.id = loc.bid <;> simp [h]

theorem readIn_some_mem {bs : List Bucket} {loc : Loc} {x : Bytes} (h : readIn bs loc = some x) :
    ∃ b ∈ bs, b.id = loc.bid ∧ b.readAt loc.off loc.len = some x := by
  induction bs with
  | nil => simp [readIn] at h
  | cons b bs ih =>
    rw [readIn_cons] at h
    split at h
    · exact ⟨b, by simp, by assumption, h⟩
    · obtain ⟨c, hc, h1, h2⟩ := ih h
      exact ⟨c, by simp [hc], h1, h2⟩

theorem readIn_of_mem {bs : List Bucket} (hnd : (bs.map (·.id)).Nodup) {b : Bucket} (hb : b ∈ bs) (loc : Loc)
    (hid : b.id = loc.bid) : readIn bs loc = b.readAt loc.off loc.len := by
  induction bs with
  | nil => simp at hb
  | cons c bs ih =>
    rw [readIn_cons]
    simp only [List.map_cons, List.nodup_cons, List.mem_map] at hnd
    rcases List.mem_cons.mp hb with rfl | hb
    · simp [hid]
    · have : c.id ≠ loc.bid := fun hc => hnd.1 ⟨b, hb, by rw [hid, hc]⟩
      simp [this]; exact ih hnd.2 hb

theorem readIn_fresh_none {bs : List Bucket} {loc : Loc} (h : ∀ b ∈ bs, b.id ≠ loc.bid) : readIn bs loc = none := by
  cases hr : readIn bs loc with
  | none => rfl
  | some x =>
    obtain ⟨c, hc, h1, _⟩ := readIn_some_mem hr
    exact absurd h1 (h c hc)

theorem readIn_perm {a b : List Bucket} (hp : a.Perm b) (hnd : (a.map (·.id)).Nodup) (loc : Loc) :
    readIn a loc = readIn b loc := by
  cases h : readIn a loc with
  | some x =>
    obtain ⟨c, hc, h1, h2⟩ := readIn_some_mem h
    rw [readIn_of_mem ((hp.map _).nodup_iff.mp hnd) (hp.mem_iff.mp hc) loc h1, h2]
  | none =>
    cases h' : readIn b loc with
    | none => rfl
    | some x =>
      obtain ⟨c, hc, h1, h2⟩ := readIn_some_mem h'
      rw [readIn_of_mem hnd (hp.mem_iff.mpr hc) loc h1, h2] at h
      simp at h

theorem Bucket.readAt_append {b : Bucket} {off len : Nat} {x : Bytes} (s : Bytes)
    (h : b.readAt off len = some x) : ({ b with data := b.data ++ s } : Bucket).readAt off len = some x := by
  unfold Bucket.readAt at *
  split at h <;> simp at h
  subst h
  have : off + len ≤ (b.data ++ s).length := by simp; omega
  simp only [this, ↓reduceIte]
  rw [List.drop_append_of_le_length (by omega), List.take_append_of_le_length (by simp; omega)]

theorem Bucket.readAt_new (b : Bucket) (s : Bytes) :
    ({ b with data := b.data ++ s } : Bucket).readAt b.data.length s.length = some s := by
  simp [Bucket.readAt]

theorem Bucket.readAt_some_iff {b : Bucket} {off len : Nat} :
    (∃ x, b.readAt off len = some x) ↔ off + len ≤ b.data.length := by
  unfold Bucket.readAt
  split <;> simp [*]

/-! ### Well-formed sets of blocks -/

/-- The part of `Arena.WF` / `LArena.WF` that speaks of the blocks; `n` is the next fresh id. -/
structure BlocksWF (bs : List Bucket) (n : Nat) : Prop where
  fits : ∀ b ∈ bs, b.data.length ≤ b.cap
  ids : (bs.map fun b => b.id).Nodup
  fresh : ∀ b ∈ bs, b.id < n

theorem BlocksWF.perm {bs bs' : List Bucket} {n : Nat} (hp : bs.Perm bs') (h : BlocksWF bs n) : BlocksWF bs' n :=
  ⟨fun b hb => h.fits b (hp.mem_iff.mpr hb), (hp.map _).nodup_iff.mp h.ids, fun b hb => h.fresh b (hp.mem_iff.mpr hb)⟩

/-- A location lies inside the initialised prefix of one of the blocks (`Arena.valid`, `LArena.valid`). -/
def validIn (bs : List Bucket) (l : Loc) : Prop := ∃ b ∈ bs, b.id = l.bid ∧ l.off + l.len ≤ b.data.length

theorem validIn_iff_read {bs : List Bucket} (hnd : (bs.map fun b => b.id).Nodup) (l : Loc) :
    validIn bs l ↔ ∃ x, readIn bs l = some x := by
  constructor
  · rintro ⟨b, hb, hid, hle⟩
    rw [readIn_of_mem hnd hb l hid]
    exact Bucket.readAt_some_iff.mpr hle
  · rintro ⟨x, hx⟩
    obtain ⟨c, hc, hid, hrd⟩ := readIn_some_mem hx
    exact ⟨c, hc, hid, Bucket.readAt_some_iff.mp ⟨x, hrd⟩⟩

/-- Two locations overlap when they name the same block and their byte ranges intersect. -/
def Loc.disjoint (l m : Loc) : Prop := l.bid ≠ m.bid ∨ l.off + l.len ≤ m.off ∨ m.off + m.len ≤ l.off

/-! ### The two ways a store changes the blocks -/

/-- `Stores s bs n bs' n' loc d`: storing `s` turned the blocks `bs` (next id `n`) into `bs'` (next id `n'`),
put `s` at `loc` and claimed `d` bytes of budget.  Either `s` was appended to a block with room, or a new
block with the next id was made that holds exactly `s`.  Where the new block sits in the list (the three
growth branches of the two arenas differ in that) does not matter. -/
inductive Stores (s : Bytes) (bs : List Bucket) (n : Nat) : List Bucket → Nat → Loc → Nat → Prop
  | fill {bs' rest : List Bucket} {b : Bucket} (hp : bs.Perm (b :: rest))
      (hp' : bs'.Perm ({ b with data := b.data ++ s } :: rest)) (hle : b.data.length + s.length ≤ b.cap) :
      Stores s bs n bs' n { bid := b.id, off := b.data.length, len := s.length } 0
  | fresh {bs' : List Bucket} {cap : Nat} (hp' : bs'.Perm ({ id := n, cap := cap, data := s } :: bs))
      (hle : s.length ≤ cap) :
      Stores s bs n bs' (n + 1) { bid := n, off := 0, len := s.length } cap

namespace Stores
variable {s : Bytes} {bs bs' : List Bucket} {n n' d : Nat} {loc : Loc}

theorem len (h : Stores s bs n bs' n' loc d) : loc.len = s.length := by cases h <;> rfl

theorem wf (h : Stores s bs n bs' n' loc d) (hw : BlocksWF bs n) : BlocksWF bs' n' := by
  cases h with
  | fill hp hp' hle =>
    obtain ⟨h1, h2, h3⟩ := hw.perm hp
    have ⟨_, f1⟩ := List.forall_mem_cons.mp h1
    have ⟨b3, f3⟩ := List.forall_mem_cons.mp h3
    exact .perm hp'.symm
      ⟨List.forall_mem_cons.mpr ⟨by simpa using hle, f1⟩, h2, List.forall_mem_cons.mpr ⟨b3, f3⟩⟩
  | fresh hp' hle =>
    refine .perm hp'.symm ⟨List.forall_mem_cons.mpr ⟨hle, hw.fits⟩, List.nodup_cons.mpr ⟨fun hm => ?_, hw.ids⟩,
      List.forall_mem_cons.mpr ⟨Nat.lt_succ_self _, fun c hc => Nat.lt_succ_of_lt (hw.fresh c hc)⟩⟩
    -- the new id is above every id in use
    obtain ⟨c, hc, e⟩ := List.mem_map.mp hm
    exact absurd (hw.fresh c hc) (by simp [e])

theorem sumCaps (h : Stores s bs n bs' n' loc d) : sumCaps bs' = sumCaps bs + d := by
  cases h with
  | fill hp hp' _ => rw [sumCaps_perm hp', sumCaps_perm hp]; rfl
  | fresh hp' _ => rw [sumCaps_perm hp', sumCaps_cons]; exact Nat.add_comm _ _

/-- The location handed out reads back exactly the stored bytes. -/
theorem read_new (h : Stores s bs n bs' n' loc d) (hw : BlocksWF bs n) : readIn bs' loc = some s := by
  have hnd := (h.wf hw).ids
  cases h with
  | fill _ hp' _ => rw [readIn_perm hp' hnd, readIn_cons, if_pos rfl]; exact Bucket.readAt_new _ s
  | fresh hp' _ => rw [readIn_perm hp' hnd, readIn_cons, if_pos rfl]; simp [Bucket.readAt]

/-- Stored bytes are never moved or overwritten. -/
theorem read_old (h : Stores s bs n bs' n' loc d) (hw : BlocksWF bs n) {l : Loc} {x : Bytes}
    (hr : readIn bs l = some x) : readIn bs' l = some x := by
  have hnd := (h.wf hw).ids
  cases h with
  | fill hp hp' _ =>
    rw [readIn_perm hp hw.ids, readIn_cons] at hr
    rw [readIn_perm hp' hnd, readIn_cons]
    split at hr
    · rw [if_pos (by assumption)]; exact Bucket.readAt_append s hr
    · rw [if_neg (by assumption)]; exact hr
  | fresh hp' _ =>
    obtain ⟨c, hc, hid, _⟩ := readIn_some_mem hr
    rw [readIn_perm hp' hnd, readIn_cons, if_neg (by have := hw.fresh c hc; simp; omega)]
    exact hr

/-- The region handed out is disjoint from every region that was valid before. -/
theorem disjoint (h : Stores s bs n bs' n' loc d) (hw : BlocksWF bs n) {l : Loc} (hv : validIn bs l) :
    l.disjoint loc := by
  obtain ⟨c, hc, hid, hle⟩ := hv
  cases h with
  | @fill rest b hp _ _ =>
    by_cases hb : l.bid = b.id
    · -- ids are unique: `l` lies in the block that was filled, below its old fill index
      rcases List.mem_cons.mp (hp.mem_iff.mp hc) with rfl | hc'
      · exact .inr (.inl hle)
      · exact absurd (List.mem_map.mpr ⟨c, hc', hid.trans hb⟩) (List.nodup_cons.mp (hw.perm hp).ids).1
    · exact .inl hb
  | fresh _ _ => exact .inl (by have := hw.fresh c hc; simp; omega)

end Stores


theorem insertBeforeLast_perm (x : α) (l : List α) : (insertBeforeLast x l).Perm (x :: l) := by
  induction l with
  | nil => simp [insertBeforeLast]
  | cons a r ih =>
    cases r with
    | nil => simp [insertBeforeLast]
    | cons b r' =>
      simp only [insertBeforeLast]
      exact (List.Perm.cons a ih).trans (List.Perm.swap x a _)

/-- Well-formedness of the arena: what `store` preserves and what makes the unchecked copy safe. -/
structure Arena.WF (a : Arena) : Prop where
  fits : ∀ b ∈ a.all, b.data.length ≤ b.cap
  ids : (a.all.map (·.id)).Nodup
  fresh : ∀ b ∈ a.all, b.id < a.nextId
  usage_eq : a.usage = sumCaps a.all
  capPos : 0 < a.bucketCap

theorem Arena.WF.blocks {a : Arena} (h : a.WF) : BlocksWF a.all a.nextId := ⟨h.fits, h.ids, h.fresh⟩

theorem Arena.new_wf (cap max : Nat) (h : 0 < cap) : (Arena.new cap max).WF := by
  constructor <;> simp [Arena.new, Arena.all, sumCaps, sumNat, h]

/-- A location is *valid* in an arena when it lies inside the initialised prefix of one of its blocks. -/
def Arena.valid (a : Arena) (l : Loc) : Prop := ∃ b ∈ a.all, b.id = l.bid ∧ l.off + l.len ≤ b.data.length

theorem Arena.valid_iff_read {a : Arena} (h : a.WF) (l : Loc) : a.valid l ↔ ∃ x, a.read l = some x :=
  validIn_iff_read h.ids l

/-! ### What `store` does -/

theorem Arena.store_empty (a : Arena) : a.store [] = .ok (a, .empty) := by simp [Arena.store]

/-! The four branches, each read off its definition: the guard that held, the new arena, the reference. -/

theorem Arena.storeFit_ok {a a' : Arena} {s : Bytes} {r : StrRef} (hs : a.storeFit s = .ok (a', r)) :
    a.cur.data.length + s.length ≤ a.cur.cap ∧ a' = { a with cur := { a.cur with data := a.cur.data ++ s } } ∧
      r = .arena ⟨a.cur.id, a.cur.data.length, s.length⟩ := by
  unfold Arena.storeFit at hs
  grind

theorem Arena.storeOversize_ok {a a' : Arena} {s : Bytes} {r : StrRef} (hs : a.storeOversize s = .ok (a', r)) :
    a.usage + s.length ≤ a.max ∧ r = .arena ⟨a.nextId, 0, s.length⟩ ∧
      a' = { a with usage := a.usage + s.length, full := insertBeforeLast ⟨a.nextId, s.length, s⟩ a.full,
                    nextId := a.nextId + 1 } := by
  unfold Arena.storeOversize Arena.freshBlock at hs
  grind

theorem Arena.storeRemaining_ok {a a' : Arena} {s : Bytes} {r : StrRef} (hs : a.storeRemaining s = .ok (a', r)) :
    ∃ rem, s.length ≤ rem ∧ 0 < rem ∧ a.usage + rem ≤ a.max ∧ r = .arena ⟨a.nextId, 0, s.length⟩ ∧
      a' = { a with usage := a.usage + rem, full := a.full ++ [a.cur], cur := ⟨a.nextId, rem, s⟩,
                    nextId := a.nextId + 1 } := by
  unfold Arena.storeRemaining Arena.freshBlock at hs
  grind

theorem Arena.storeDouble_ok {a a' : Arena} {s : Bytes} {r : StrRef} (hs : a.storeDouble s = .ok (a', r)) :
    s.length ≤ a.bucketCap * 2 ∧ a.usage + a.bucketCap * 2 ≤ a.max ∧ r = .arena ⟨a.nextId, 0, s.length⟩ ∧
      a' = { a with usage := a.usage + a.bucketCap * 2, full := a.full ++ [a.cur],
                    cur := ⟨a.nextId, a.bucketCap * 2, s⟩, bucketCap := a.bucketCap * 2, nextId := a.nextId + 1 } := by
  unfold Arena.storeDouble Arena.freshBlock at hs
  grind

/-- What a successful `store` did: nothing (the empty string), or a `Stores` step on the blocks with the
accounting that goes with it. -/
theorem Arena.store_ok {a a' : Arena} {s : Bytes} {r : StrRef} (hs : a.store s = .ok (a', r)) :
    (s.length = 0 ∧ a' = a ∧ r = .empty) ∨
    (s.length ≠ 0 ∧ ∃ loc d, r = .arena loc ∧ Stores s a.all a.nextId a'.all a'.nextId loc d ∧
      a'.usage = a.usage + d ∧ (d = 0 ∨ (0 < d ∧ a.usage + d ≤ a.max)) ∧ a'.max = a.max ∧
      (0 < a.bucketCap → 0 < a'.bucketCap)) := by
  unfold Arena.store at hs
  split at hs
  · simp only [Out.ok.injEq, Prod.mk.injEq] at hs
    exact .inl ⟨‹_›, hs.1.symm, hs.2.symm⟩
  refine .inr ⟨‹_›, ?_⟩
  -- the remaining-budget and the doubling branch put the new block last and retire the old one
  have hlast : ∀ cap, (⟨a.nextId, cap, s⟩ :: (a.full ++ [a.cur])).Perm (⟨a.nextId, cap, s⟩ :: a.all) :=
    fun cap => .cons _ List.perm_append_comm
  split at hs
  · obtain ⟨hle, rfl, rfl⟩ := Arena.storeFit_ok hs
    exact ⟨_, 0, rfl, .fill (.refl _) (.refl _) hle, rfl, .inl rfl, rfl, id⟩
  split at hs
  · obtain ⟨hb, rfl, rfl⟩ := Arena.storeOversize_ok hs
    exact ⟨_, s.length, rfl, .fresh ((List.Perm.cons _ (insertBeforeLast_perm _ _)).trans (.swap ..)) (Nat.le_refl _),
      rfl, .inr ⟨by omega, hb⟩, rfl, id⟩
  split at hs
  · obtain ⟨rem, hle, h0, hb, rfl, rfl⟩ := Arena.storeRemaining_ok hs
    exact ⟨_, rem, rfl, .fresh (hlast _) hle, rfl, .inr ⟨h0, hb⟩, rfl, id⟩
  · obtain ⟨hle, hb, rfl, rfl⟩ := Arena.storeDouble_ok hs
    exact ⟨_, _, rfl, .fresh (hlast _) hle, rfl, .inr ⟨by omega, hb⟩, rfl, fun h => Nat.mul_pos h (by decide)⟩

/-- A string that fits the current block is stored there. -/
theorem Arena.store_fit_free (a : Arena) (x : Bytes) (hfit : x.length ≤ a.cur.free) :
    ∃ a' ref, a.store x = .ok (a', ref) ∧ a'.cur.free = a.cur.free - x.length ∧ a'.max = a.max := by
  unfold Arena.store Arena.storeFit Bucket.free at *
  by_cases h0 : x.length = 0
  · exact ⟨a, .empty, by simp [h0], by omega, rfl⟩
  · refine ⟨{ a with cur := { a.cur with data := a.cur.data ++ x } },
      .arena { bid := a.cur.id, off := a.cur.data.length, len := x.length }, ?_, ?_, rfl⟩
    · simp only [h0, hfit, ↓reduceIte]; rw [if_pos (by omega)]
    · simp; omega

/-- Which outcome: `store` succeeds, or reports the memory limit in a state where the string fits neither
the current block nor the budget. -/
theorem Arena.store_total (a : Arena) (s : Bytes) :
    (∃ a' r, a.store s = .ok (a', r)) ∨
    (a.store s = .err .memoryLimit ∧ s.length ≠ 0 ∧ a.cur.free < s.length ∧ a.usage + s.length > a.max) := by
  unfold Arena.store Arena.storeFit Arena.storeOversize Arena.storeRemaining Arena.storeDouble Bucket.free
  grind

theorem Arena.store_no_fault {a : Arena} (h : a.WF) (s : Bytes) (f : Fault) : a.store s ≠ .fault f := by
  rcases Arena.store_total a s with ⟨_, _, e⟩ | ⟨e, _⟩ <;> simp [e]

theorem Arena.store_no_panic {a : Arena} (s : Bytes) : a.store s ≠ .panic := by
  rcases Arena.store_total a s with ⟨_, _, e⟩ | ⟨e, _⟩ <;> simp [e]

theorem Arena.store_err {a : Arena} {s : Bytes} {e : Err} (hs : a.store s = .err e) :
    e = .memoryLimit ∧ s.length ≠ 0 ∧ a.cur.free < s.length ∧ a.usage + s.length > a.max := by
  rcases Arena.store_total a s with ⟨_, _, h⟩ | ⟨h, h'⟩ <;> rw [h] at hs
  · simp at hs
  · injection hs with hs; exact ⟨hs.symm, h'⟩

theorem Arena.store_err_of {a : Arena} {s : Bytes} (h0 : s.length ≠ 0) (h1 : a.cur.free < s.length)
    (h2 : a.usage + s.length > a.max) : a.store s = .err .memoryLimit := by
  unfold Arena.store Arena.storeFit Arena.storeOversize Arena.storeRemaining Arena.storeDouble
  unfold Bucket.free at h1 ⊢
  grind

theorem Arena.store_usage {a a' : Arena} {s : Bytes} {r : StrRef} (hs : a.store s = .ok (a', r)) :
    a'.max = a.max ∧ (a'.usage = a.usage ∨ (a.usage < a'.usage ∧ a'.usage ≤ a.max)) := by
  rcases Arena.store_ok hs with ⟨_, rfl, _⟩ | ⟨_, _, d, _, _, hu, hd, hm, _⟩
  · exact ⟨rfl, .inl rfl⟩
  · exact ⟨hm, by omega⟩

theorem Arena.store_wf {a a' : Arena} {s : Bytes} {r : StrRef} (h : a.WF) (hs : a.store s = .ok (a', r)) : a'.WF := by
  rcases Arena.store_ok hs with ⟨_, rfl, _⟩ | ⟨_, _, _, _, hst, hu, _, _, hc⟩
  · exact h
  · have hb := hst.wf h.blocks
    exact ⟨hb.fits, hb.ids, hb.fresh, by rw [hu, h.usage_eq, hst.sumCaps], hc h.capPos⟩

/-- The location handed out reads back exactly the stored bytes. -/
theorem Arena.store_read_new {a a' : Arena} {s : Bytes} {loc : Loc} (h : a.WF)
    (hs : a.store s = .ok (a', .arena loc)) : a'.read loc = some s := by
  rcases Arena.store_ok hs with ⟨_, _, hr⟩ | ⟨_, _, _, hr, hst, _⟩
  · simp at hr
  · injection hr with hr; subst hr; exact hst.read_new h.blocks

/-- Every location that was readable stays readable with the same bytes: stored strings are never
moved or overwritten. -/
theorem Arena.store_read_old {a a' : Arena} {s : Bytes} {r : StrRef} (h : a.WF)
    (hs : a.store s = .ok (a', r)) (l : Loc) (x : Bytes) (hr : a.read l = some x) : a'.read l = some x := by
  rcases Arena.store_ok hs with ⟨_, rfl, _⟩ | ⟨_, _, _, _, hst, _⟩
  · exact hr
  · exact hst.read_old h.blocks hr

end Lasso
