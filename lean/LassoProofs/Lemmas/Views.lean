import LassoProofs.Lemmas.THistory
/-
  Conversions of the concurrent interner into views: the scatter by key index and the rebuild of the
  raw table.
-/
namespace Lasso
set_option linter.unusedSimpArgs false

theorem collectSome_map_some (l : List α) : Threaded.collectSome (l.map some) = some l := by
  induction l with
  | nil => rfl
  | cons a r ih => simp [Threaded.collectSome, ih]

/-- In a well-formed concurrent interner the scatter succeeds and position `k` of the vector holds
exactly the reference the key->string map has for key `k`, so the vector denotes the same strings. -/
theorem Threaded.scatter_spec {env : Env} {t : Threaded} (h : t.Inv env) :
    ∃ ss, t.scatter = .ok ss ∧ ss.length = t.strs.length ∧ ∀ k, strAt env t.arena.read ss k = t.str env k := by
  have hall : t.strs.all (fun e => decide (e.1 < t.strs.length)) = true := by
    simp only [List.all_eq_true, decide_eq_true_eq]
    intro e he
    exact (h.dense e.1).mpr ⟨e.2, he⟩
  have hslots : (List.range t.strs.length).map (fun i => assocGet i t.strs)
      = ((List.range t.strs.length).map (fun i => (assocGet i t.strs).getD .empty)).map some := by
    rw [List.map_map]
    apply List.map_congr_left
    intro i hi
    simp only [List.mem_range] at hi
    obtain ⟨ref, hr⟩ := (h.dense i).mp hi
    simp [assocGet_of_mem h.strNd hr]
  refine ⟨(List.range t.strs.length).map (fun i => (assocGet i t.strs).getD .empty), ?_, by simp, ?_⟩
  · unfold Threaded.scatter
    simp only [hall, ↓reduceIte, hslots, collectSome_map_some]
  · intro k
    have hget : ((List.range t.strs.length).map fun i => (assocGet i t.strs).getD .empty)[k]? = assocGet k t.strs := by
      by_cases hk : k < t.strs.length
      · obtain ⟨ref, hr⟩ := (h.dense k).mp hk
        simp [hk, assocGet_of_mem h.strNd hr]
      · have : t.resolveRef k = none :=
          Option.not_isSome_iff_eq_none.mp fun hs => hk ((Threaded.resolveRef_isSome h k).mp hs)
        rw [show assocGet k t.strs = none from this]
        exact List.getElem?_eq_none (by simp; omega)
    simp only [strAt, hget, Threaded.str, Threaded.resolveRef, Threaded.content]
    cases assocGet k t.strs <;> rfl

/-- The resolver obtained from the concurrent interner resolves every key exactly as the interner did. -/
theorem Threaded.intoResolver_spec {env : Env} {t : Threaded} (h : t.Inv env) :
    ∃ rs, t.intoResolver = .ok rs ∧ rs.strings.length = t.strs.length ∧ rs.N = t.N ∧ rs.arena = .lf t.arena ∧
      ∀ k, rs.str env k = t.str env k := by
  obtain ⟨ss, h1, h2, h3⟩ := Threaded.scatter_spec h
  exact ⟨{ strings := ss, arena := .lf t.arena, N := t.N }, by simp [Threaded.intoResolver, h1], h2, rfl, rfl, h3⟩

/-- The rebuild loop over the drained string->key map: every entry gets a table entry, placed under the hash
of its string; a string found twice would be the `unreachable!`, which distinct strings rule out. -/
theorem rebuildTable_spec {env : Env} {read : Loc → Option Bytes} {ss : List StrRef}
    (hd : ∀ i j y, strAt env read ss i = some y → strAt env read ss j = some y → i = j)
    (m : List (StrRef × Nat)) :
    ∀ (tb : Table),
      (∀ e ∈ m, e.2 < ss.length ∧ ∃ x, contentOf env read e.1 = some x ∧ strAt env read ss e.2 = some x) →
      (m.map (·.2)).Nodup → (∀ e ∈ m, ∀ f ∈ tb, f.2 ≠ e.2) →
      (∀ f ∈ tb, ∃ s, strAt env read ss f.2 = some s ∧ f.1 = env.hash s) → (∀ f ∈ tb, f.2 < ss.length) →
      ∃ tb', Threaded.rebuildTable env read ss m tb = .ok tb' ∧
        (∀ f ∈ tb', ∃ s, strAt env read ss f.2 = some s ∧ f.1 = env.hash s) ∧ (∀ f ∈ tb', f.2 < ss.length) ∧
        (∀ f ∈ tb, f ∈ tb') ∧ ∀ e ∈ m, ∃ f ∈ tb', f.2 = e.2 := by
  induction m with
  | nil =>
    intro tb _ _ _ hp hb
    exact ⟨tb, rfl, hp, hb, fun _ hf => hf, by simp⟩
  | cons e rest ih =>
    intro tb hm hnd hdisj hp hb
    obtain ⟨ref, k⟩ := e
    obtain ⟨hk, x, hx, hSk⟩ := hm (ref, k) (by simp)
    simp only [List.map_cons, List.nodup_cons, List.mem_map] at hnd
    unfold Threaded.rebuildTable
    simp only [hx]
    rw [tableFind_eq env read ss tb x hb]
    have hnone : tfind env.hash (strAt env read ss) tb x = none := by
      cases hf : tfind env.hash (strAt env read ss) tb x with
      | none => rfl
      | some j =>
        obtain ⟨hj, f, hf1, hf2⟩ := tfind_some hf
        cases hd j k x hj hSk
        exact absurd hf2 (hdisj (ref, _) (by simp) f hf1)
    simp only [hnone]
    have hre : rehashFn env read ss = fun k => (strAt env read ss k).map env.hash := rfl
    rw [hre, tableInsert_ok (hash := env.hash) (S := strAt env read ss) hp (env.hash x) k false]
    obtain ⟨tb', h1, h2, h3, h4, h5⟩ := ih (tb ++ [(env.hash x, k)])
      (fun e he => hm e (List.mem_cons_of_mem _ he)) hnd.2
      (fun e he => forall_mem_concat (hdisj e (List.mem_cons_of_mem _ he)) fun heq => hnd.1 ⟨e, he, heq.symm⟩)
      (forall_mem_concat hp ⟨x, hSk, rfl⟩) (forall_mem_concat hb hk)
    refine ⟨tb', h1, h2, h3, fun f hf => h4 f (List.mem_append_left _ hf), fun e he => ?_⟩
    rcases List.mem_cons.mp he with rfl | he
    · exact ⟨_, h4 _ (List.mem_append_right _ (List.mem_singleton_self _)), rfl⟩
    · exact h5 e he

/-- What makes a reader answer lookups exactly. -/
structure Reader.Good (env : Env) (rd : Reader) : Prop where
  tinv : TInv env.hash (rd.str env) rd.strings.length rd.table
  distinct : ∀ i j y, rd.str env i = some y → rd.str env j = some y → i = j
  total : ∀ k, k < rd.strings.length → ∃ y, rd.str env k = some y
  lenLe : rd.strings.length ≤ rd.N

theorem Reader.get_spec {env : Env} {rd : Reader} (h : rd.Good env) (x : Bytes) :
    ∃ o, rd.get env x = .ok o ∧ ∀ k, o = some k ↔ rd.str env k = some x :=
  tableFind_exact h.tinv h.distinct x

/-- A reader made from a single-threaded interner is good, and it *is* the interner as far as every
query goes (the fields are moved). -/
theorem Rodeo.intoReader_good {env : Env} {r : Rodeo} (h : r.Inv env) : r.intoReader.Good env :=
  ⟨h.tinv, h.distinct, h.str_total, h.lenLe⟩

/-- The reader obtained from the concurrent interner. -/
theorem Threaded.intoReader_spec {env : Env} {t : Threaded} (h : t.Inv env) :
    ∃ rd, t.intoReader env = .ok rd ∧ rd.Good env ∧ rd.strings.length = t.strs.length ∧ rd.N = t.N ∧
      ∀ k, rd.str env k = t.str env k := by
  obtain ⟨ss, h1, h2, hS⟩ := Threaded.scatter_spec h
  have hall : t.map.all (fun e => decide (e.2 < ss.length)) = true := by
    simp only [List.all_eq_true, decide_eq_true_eq]
    intro e he
    rw [h2]
    exact (h.dense e.2).mpr ⟨e.1, h.mapStr e.1 e.2 he⟩
  have hd : ∀ i j y, strAt env t.arena.read ss i = some y → strAt env t.arena.read ss j = some y → i = j := by
    intro i j y hi hj
    rw [hS] at hi hj
    exact h.distinct i j y hi hj
  obtain ⟨tb, hb1, hb2, hb3, _, hb5⟩ := rebuildTable_spec (env := env) (read := t.arena.read) (ss := ss) hd t.map []
    (by
      intro e he
      have hm := h.mapStr e.1 e.2 he
      refine ⟨by rw [h2]; exact (h.dense e.2).mpr ⟨e.1, hm⟩, ?_⟩
      obtain ⟨y, hy⟩ := Threaded.content_some h hm
      exact ⟨y, hy, by rw [hS]; exact (Threaded.str_iff h e.2 y).mpr ⟨e.1, hm, hy⟩⟩)
    h.mapNd (by simp) (by simp) (by simp)
  refine ⟨{ table := tb, strings := ss, arena := .lf t.arena, N := t.N }, ?_, ⟨⟨hb2, ?_, hb3⟩, hd, ?_, h2 ▸ h.lenLe⟩, h2, rfl, hS⟩
  · unfold Threaded.intoReader
    simp only [h1, hall, ↓reduceIte, hb1]
  · intro k hk
    obtain ⟨ref, hr⟩ := (h.dense k).mp (h2 ▸ hk)
    exact hb5 (ref, k) (h.strMap k ref hr)
  · intro k hk
    rw [show Reader.str env _ k = strAt env t.arena.read ss k from rfl, hS]
    exact (Threaded.lt_len_iff h k).mp (h2 ▸ hk)

end Lasso
