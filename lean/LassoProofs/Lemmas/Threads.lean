/-
  Thread lists under `List.set`: both interleaving machines (`Lasso.Conc`, `Lasso.CA`) keep their threads in a
  list, a step replaces the entry of the stepping thread, and their invariants speak of threads through
  projections `π : thread → Option β` ("holds this lock", "is copying into this range", "owns this block").
  The shapes such clauses have are transferred across `set` here, once, for any list and projection: `holder_set`
  and `pairwise_set` for an invariant that keeps its clauses about the list itself (`CA.AInv`); `view`, `Upd`,
  `view_set`, `view_frame` for one that is restated over the list read as a function `Nat → Option β`, which a
  step updates at one point or not at all (`Conc.inv_iff`).
-/
namespace Lasso
variable {α β : Type}

theorem getElem?_set_iff {l : List α} {t u : Nat} {new a : α} :
    (l.set t new)[u]? = some a ↔ (u = t ∧ a = new ∧ t < l.length) ∨ (u ≠ t ∧ l[u]? = some a) := by
  rw [List.getElem?_set]
  by_cases h : t = u
  · subst h; by_cases hl : t < l.length <;> simp [hl, eq_comm]
  · simp [h, Ne.symm h]

theorem getElem?_set_self' {l : List α} {t : Nat} {th : α} (ht : l[t]? = some th) (new : α) : (l.set t new)[t]? = some new :=
  getElem?_set_iff.mpr (Or.inl ⟨rfl, rfl, (List.getElem?_eq_some_iff.mp ht).1⟩)

/-- A clause about every thread: check the stepping thread's new entry, and the others as they were. -/
theorem forall_set {l : List α} {t : Nat} {new : α} {P : Nat → α → Prop} (hnew : P t new)
    (hold : ∀ u a, u ≠ t → l[u]? = some a → P u a) : ∀ u a, (l.set t new)[u]? = some a → P u a := by
  intro u a hu
  rcases getElem?_set_iff.mp hu with ⟨rfl, rfl, _⟩ | ⟨hne, hu⟩
  · exact hnew
  · exact hold u a hne hu

/-- "Somebody holds `a`" survives the step of thread `t` unless `t` itself held `a` and gives it up. -/
theorem holder_set {l : List α} {π : α → Option β} {t : Nat} {th : α} (ht : l[t]? = some th) (new : α)
    {u : Nat} {thu : α} {a : β} (hu : l[u]? = some thu) (ha : π thu = some a) (hk : π th = some a → π new = some a) :
    ∃ (u' : Nat) (thu' : α), (l.set t new)[u']? = some thu' ∧ π thu' = some a := by
  by_cases hut : u = t
  · subst hut
    rw [ht] at hu; cases hu
    exact ⟨u, new, getElem?_set_self' ht new, hk ha⟩
  · exact ⟨u, thu, getElem?_set_iff.mpr (Or.inr ⟨hut, hu⟩), ha⟩

/-- "What two different threads hold is `R`-related" survives the step of thread `t` if what `t` holds afterwards
it held before, or is related to everything the others hold. -/
theorem pairwise_set {l : List α} {π : α → Option β} {R : β → β → Prop} (hsym : ∀ a b, R a b → R b a)
    (h : ∀ (u v : Nat) (p q : α) (a b : β), u ≠ v → l[u]? = some p → l[v]? = some q → π p = some a → π q = some b → R a b)
    {t : Nat} {th : α} (ht : l[t]? = some th) (new : α)
    (hnew : ∀ a, π new = some a → π th = some a ∨ ∀ (v : Nat) (q : α) (b : β), v ≠ t → l[v]? = some q → π q = some b → R a b) :
    ∀ (u v : Nat) (p q : α) (a b : β), u ≠ v → (l.set t new)[u]? = some p → (l.set t new)[v]? = some q →
      π p = some a → π q = some b → R a b := by
  intro u v p q a b huv hu hv hp hq
  rw [getElem?_set_iff] at hu hv
  rcases hu with ⟨rfl, rfl, _⟩ | ⟨hut, hu⟩ <;> rcases hv with ⟨rfl, rfl, _⟩ | ⟨hvt, hv⟩
  · exact absurd rfl huv
  · rcases hnew a hp with hold | hfresh
    · exact h u v th q a b huv ht hv hold hq
    · exact hfresh v q b hvt hv hq
  · rcases hnew b hq with hold | hfresh
    · exact h u v p th a b huv hu ht hp hold
    · exact hsym _ _ (hfresh u p a hut hu hp)
  · exact h u v p q a b huv hu hv hp hq

/-! ### The list read through a projection: a function that a step updates at one point -/

def view (proj : α → Option β) (ts : List α) (u : Nat) : Option β := ts[u]?.bind proj

variable {proj : α → Option β} {ts : List α} {t u : Nat} {old new : α} {v : β}

theorem view_eq_some : view proj ts u = some v ↔ ∃ a, ts[u]? = some a ∧ proj a = some v := by
  simp [view, Option.bind_eq_some_iff]

theorem view_forall {Q : Nat → β → Prop} :
    (∀ u v, view proj ts u = some v → Q u v) ↔ ∀ (u : Nat) (a : α) (v : β), ts[u]? = some a → proj a = some v → Q u v :=
  ⟨fun h u a v ha hv => h u v (view_eq_some.mpr ⟨a, ha, hv⟩),
   fun h u v hv => let ⟨a, ha, hp⟩ := view_eq_some.mp hv; h u a v ha hp⟩

theorem view_exists : (∃ u, view proj ts u = some v) ↔ ∃ (u : Nat) (a : α), ts[u]? = some a ∧ proj a = some v :=
  ⟨fun ⟨u, h⟩ => ⟨u, view_eq_some.mp h⟩, fun ⟨u, h⟩ => ⟨u, view_eq_some.mpr h⟩⟩

theorem view_of_get (h : ts[u]? = some old) : view proj ts u = proj old := by
  simp [view, h]

/-- `F'` is `F` with the value at `t` replaced by `v`. -/
structure Upd (F F' : Nat → Option β) (t : Nat) (v : Option β) : Prop where
  self : F' t = v
  ne : ∀ u, u ≠ t → F' u = F u

theorem Upd.cases {F F' : Nat → Option β} {w : Option β} (h : Upd F F' t w) (hu : F' u = some v) :
    (u = t ∧ w = some v) ∨ (u ≠ t ∧ F u = some v) := by
  by_cases hut : u = t
  · exact Or.inl ⟨hut, by rw [← h.self, ← hut, hu]⟩
  · exact Or.inr ⟨hut, h.ne u hut ▸ hu⟩

theorem Upd.keep {F F' : Nat → Option β} {w : Option β} (h : Upd F F' t w) (hut : u ≠ t) (hu : F u = some v) : F' u = some v :=
  (h.ne u hut).trans hu

theorem view_set (ht : ts[t]? = some old) : Upd (view proj ts) (view proj (ts.set t new)) t (proj new) :=
  ⟨by simp [view, (List.getElem?_eq_some_iff.mp ht).1], fun u h => by simp [view, Ne.symm h]⟩

theorem view_set_same (ht : ts[t]? = some old) (h : proj new = proj old) : view proj (ts.set t new) = view proj ts := by
  funext u
  by_cases hu : u = t
  · rw [hu, (view_set ht).self, view_of_get ht, h]
  · exact (view_set ht).ne u hu

/-- A statement about the view survives a step that leaves the stepping thread's projection alone. -/
theorem view_frame {C : (Nat → Option β) → Prop} (ht : ts[t]? = some old) (h : proj new = proj old)
    (hc : C (view proj ts)) : C (view proj (ts.set t new)) :=
  view_set_same ht h ▸ hc

end Lasso
