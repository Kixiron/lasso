import LassoProofs.Lemmas.ConcArenaHist
/-
  No block is ever lost: every block identity handed out so far is either in the published list or
  owned by exactly the thread that is about to publish it.  At quiescence the list therefore holds
  every block that was ever allocated.
-/
namespace Lasso.CA
open Lasso

/-- Every block identity below `nextId` is accounted for. -/
def AllIds (s : AS) : Prop :=
  ∀ i, i < s.nextId → (∃ b ∈ s.buckets, b.id = i) ∨
    (∃ (t : Nat) (th : AThread) (x : Bytes) (nb : ABucket), s.ts[t]? = some th ∧ ownsB th.pc = some (x, nb) ∧ nb.id = i)

/-- Every identity stays accounted for when thread `t` steps, if published blocks stay, `t` keeps or publishes the
block it owns, and owns the block of the identity newly handed out, if one is. -/
theorem allIds_set {s s' : AS} (hA : AllIds s) {t : Nat} {th : AThread} (ht : s.ts[t]? = some th) (new : AThread)
    (hts : s'.ts = s.ts.set t new) (hblk : Keeps s s')
    (hown : ∀ x nb, ownsB th.pc = some (x, nb) → ownsB new.pc = some (x, nb) ∨ ∃ b' ∈ s'.buckets, b'.id = nb.id)
    (hnew : s'.nextId = s.nextId ∨ s'.nextId = s.nextId + 1 ∧ ∃ x nb, ownsB new.pc = some (x, nb) ∧ nb.id = s.nextId) : AllIds s' := by
  intro i hi
  have hself : s'.ts[t]? = some new := hts ▸ getElem?_set_self' ht new
  by_cases hlt : i < s.nextId
  · rcases hA i hlt with ⟨b, hb, hid⟩ | ⟨u, thu, x, nb, hu, ho, hid⟩
    · obtain ⟨b', hb', hid', _⟩ := hblk b hb
      exact .inl ⟨b', hb', hid'.trans hid⟩
    · by_cases hut : u = t
      · subst hut
        cases ht.symm.trans hu
        rcases hown x nb ho with hk | ⟨b', hb', hid'⟩
        · exact .inr ⟨u, new, x, nb, hself, hk, hid⟩
        · exact .inl ⟨b', hb', hid'.trans hid⟩
      · exact .inr ⟨u, thu, x, nb, hts ▸ getElem?_set_iff.mpr (.inr ⟨hut, hu⟩), ho, hid⟩
  · rcases hnew with e | ⟨e, x, nb, ho, hid⟩
    · exact absurd (e ▸ hi) hlt
    · exact .inr ⟨t, new, x, nb, hself, ho, by omega⟩

theorem init_allIds (cap max : Nat) (programs : List (List Bytes)) : AllIds (init cap max programs) := fun _ hi =>
  .inl ⟨_, List.mem_singleton_self _, (Nat.lt_one_iff.mp hi).symm⟩

theorem step_allIds {cap0 : Nat} {s s' : AS} {t : Nat} {sp : Bool} (h : AInv cap0 s) (hA : AllIds s) (hs : step s t sp = some s') : AllIds s' := by
  have hk := step_keeps hs
  obtain ⟨th, ht, k⟩ := step_cases hs
  cases k with
  | move new lg bc _ _ ho => exact allIds_set hA ht new rfl hk (fun x nb hx => .inl (ho ▸ hx)) (.inl rfl)
  | cas hpc => exact allIds_set hA ht _ rfl hk (by simp [hpc, ownsB]) (.inl rfl)
  | copy hpc => exact allIds_set hA ht _ rfl hk (by simp [hpc, ownsB]) (.inl rfl)
  | alloc hpc _ hown =>
    exact allIds_set hA ht _ rfl hk (by simp [hpc, ownsB]) (.inr ⟨rfl, _, _, hown, rfl⟩)
  | allocZero hpc hreq => exact absurd (h.req_pos ht hpc) (hreq ▸ Nat.lt_irrefl 0)
  | push hpc =>
    exact allIds_set hA ht _ rfl hk (by rw [hpc]; rintro _ _ ⟨⟩; exact .inr ⟨_, List.mem_cons_self .., rfl⟩) (.inl rfl)

theorem run_allIds {cap0 : Nat} (sched : List (Nat × Bool)) {s : AS} (h : AInv cap0 s) (hA : AllIds s) : AllIds (run s sched) :=
  run_induct_inv step_allIds sched h hA

/-- At quiescence nobody owns an unpublished block: the list holds every block ever allocated. -/
theorem quiescent_all_published {s : AS} (hA : AllIds s) (hq : quiescent s = true) :
    ∀ i, i < s.nextId → ∃ b ∈ s.buckets, b.id = i := by
  intro i hi
  rcases hA i hi with h | ⟨u, thu, x, nb, hu, ho, _⟩
  · exact h
  · rw [quiescent_idle hq thu (List.mem_of_getElem? hu)] at ho
    cases ho

end Lasso.CA
