import LassoModel.InternInterp
namespace Lasso
open Lasso.Source

theorem interp_intern_is_model (env : Env) (r : Rodeo) (x : Bytes) (grow : Bool) :
    interpIntern env Extracted.rodeoInternEffects r x grow = r.tryIntern env x grow := by
  unfold interpIntern Rodeo.tryIntern Extracted.rodeoInternEffects
  simp only [runREffects, REffect.run]
  cases r.get env x with
  | ok o =>
    cases o with
    | some k => simp
    | none =>
      simp only []
      cases keyOfIndex r.N r.strings.length with
      | none => simp
      | some raw =>
        simp only []
        cases r.arena.store x with
        | ok p =>
          obtain ⟨a', ref⟩ := p
          simp only [Bool.and_self, List.length_append, List.length_cons, List.length_nil, Nat.zero_add, Nat.add_sub_cancel]
          cases tableInsert r.table (env.hash x) r.strings.length grow (rehashFn env a'.read (r.strings ++ [ref])) with
          | _ => simp
        | _ => simp
  | _ => simp

theorem interp_intern_static_is_model (env : Env) (r : Rodeo) (i : Nat) (grow : Bool) :
    interpInternStatic env Extracted.rodeoInternStaticEffects r i grow = r.tryInternStatic env i grow := by
  unfold interpInternStatic Rodeo.tryInternStatic Extracted.rodeoInternStaticEffects
  cases env.pool[i]? with
  | none => simp
  | some x =>
    simp only [runREffects, REffect.run]
    cases r.get env x with
    | ok o =>
      cases o with
      | some k => simp
      | none =>
        simp only []
        cases keyOfIndex r.N r.strings.length with
        | none => simp
        | some raw =>
          simp only [Bool.and_self, List.length_append, List.length_cons, List.length_nil, Nat.zero_add, Nat.add_sub_cancel]
          cases tableInsert r.table (env.hash x) r.strings.length grow (rehashFn env r.arena.read (r.strings ++ [StrRef.static i])) with
          | _ => simp
    | _ => simp

end Lasso
