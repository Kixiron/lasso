import LassoProofs.Lemmas.Rodeo
/-
  Histories of state-changing calls on a `Rodeo`, and the lift of the one-step facts to every
  reachable state.  Queries do not change the state (they are functions of it), so a history of
  arbitrary API calls is, as far as the state goes, the list of its mutating calls.
-/
namespace Lasso

/-- The mutating calls of `Rodeo`. `grow` is the table-growth oracle of that call. -/
inductive ROp where
  | intern (x : Bytes) (grow : Bool)          -- try_get_or_intern / get_or_intern
  | internStatic (i : Nat) (grow : Bool)      -- try_get_or_intern_static / get_or_intern_static
  | setLimit (m : Nat)
  | clear
  deriving Repr

def ROp.isClear : ROp → Bool
  | .clear => true
  | _ => false

/-- State after one call; a failing call leaves the state as it was. -/
def Rodeo.apply (env : Env) (r : Rodeo) : ROp → Rodeo
  | .intern x g => match r.tryIntern env x g with
    | .ok (r', _) => r'
    | _ => r
  | .internStatic i g => match r.tryInternStatic env i g with
    | .ok (r', _) => r'
    | _ => r
  | .setLimit m => r.setLimit m
  | .clear => r.clear

def Rodeo.run (env : Env) (r : Rodeo) (ops : List ROp) : Rodeo := ops.foldl (Rodeo.apply env) r

/-- Static operations of a history only name pool strings that exist (what the type `&'static str`
guarantees to the real code). -/
def ROp.wellFormed (env : Env) : ROp → Prop
  | .internStatic i _ => i < env.pool.length
  | _ => True

/-- The one induction over histories: what every admissible call preserves holds after the run. -/
theorem foldl_invariant {σ ο : Type} {f : σ → ο → σ} {I : σ → Prop} {ok : ο → Prop}
    (step : ∀ s o, I s → ok o → I (f s o)) :
    ∀ (ops : List ο) (s : σ), I s → (∀ o ∈ ops, ok o) → I (ops.foldl f s)
  | [], _, h, _ => h
  | o :: ops, s, h, hok =>
    foldl_invariant step ops (f s o) (step s o h (hok o (List.mem_cons_self ..)))
      fun o' ho' => hok o' (List.mem_cons_of_mem _ ho')

/-- One call keeps the invariant and, unless it is `clear`, every key -> string association. -/
theorem Rodeo.apply_spec {env : Env} {r : Rodeo} (h : r.Inv env) (op : ROp) (hw : op.wellFormed env) :
    (r.apply env op).Inv env ∧
      (op.isClear = false → ∀ k y, r.str env k = some y → (r.apply env op).str env k = some y) := by
  cases op with
  | intern x g =>
    simp only [Rodeo.apply]
    split
    next r' _ he => have m := Rodeo.tryIntern_minted h he; exact ⟨m.inv, fun _ => m.old⟩
    · exact ⟨h, fun _ _ _ hk => hk⟩
  | internStatic i g =>
    simp only [Rodeo.apply]
    split
    next r' _ he =>
      have m := Rodeo.tryInternStatic_minted h (List.getElem?_eq_getElem hw) he
      exact ⟨m.inv, fun _ => m.old⟩
    · exact ⟨h, fun _ _ _ hk => hk⟩
  | setLimit m => exact ⟨Rodeo.setLimit_inv h m, fun _ _ _ hk => hk⟩
  | clear => exact ⟨Rodeo.clear_inv h, fun hc => by cases hc⟩

theorem Rodeo.apply_inv {env : Env} {r : Rodeo} (h : r.Inv env) (op : ROp) (hw : op.wellFormed env) :
    (r.apply env op).Inv env := (Rodeo.apply_spec h op hw).1

theorem Rodeo.run_inv {env : Env} {r : Rodeo} (h : r.Inv env) (ops : List ROp)
    (hw : ∀ op ∈ ops, op.wellFormed env) : (r.run env ops).Inv env :=
  foldl_invariant (I := fun r' => r'.Inv env) (fun _ op h hw => Rodeo.apply_inv h op hw) ops r h hw

theorem Rodeo.run_keeps {env : Env} {r : Rodeo} (h : r.Inv env) (ops : List ROp)
    (hw : ∀ op ∈ ops, op.wellFormed env) (hc : ∀ op ∈ ops, op.isClear = false)
    (k : Nat) (y : Bytes) (hk : r.str env k = some y) : (r.run env ops).str env k = some y :=
  (foldl_invariant (I := fun r' => r'.Inv env ∧ r'.str env k = some y)
    (ok := fun op => op.wellFormed env ∧ op.isClear = false)
    (fun _ op h hop => ⟨Rodeo.apply_inv h.1 op hop.1, (Rodeo.apply_spec h.1 op hop.1).2 hop.2 k y h.2⟩)
    ops r ⟨h, hk⟩ fun op ho => ⟨hw op ho, hc op ho⟩).2

end Lasso
