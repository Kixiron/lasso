import LassoProofs.Lemmas.Arena
/-
  The lock-free arena used from one thread: its successful `store` is a `Stores` step on `buckets`.
-/
namespace Lasso

structure LArena.WF (a : LArena) : Prop where
  fits : ∀ b ∈ a.buckets, b.data.length ≤ b.cap
  ids : (a.buckets.map (·.id)).Nodup
  fresh : ∀ b ∈ a.buckets, b.id < a.nextId
  usage_eq : a.usage = sumCaps a.buckets
  capPos : 0 < a.bucketCap

theorem LArena.WF.blocks {a : LArena} (h : a.WF) : BlocksWF a.buckets a.nextId := ⟨h.fits, h.ids, h.fresh⟩

def LArena.valid (a : LArena) (l : Loc) : Prop := ∃ b ∈ a.buckets, b.id = l.bid ∧ l.off + l.len ≤ b.data.length

theorem LArena.new_wf (cap max : Nat) (h : 0 < cap) : (LArena.new cap max).WF := by
  constructor <;> simp [LArena.new, sumCaps, sumNat, h]

theorem LArena.valid_iff_read {a : LArena} (h : a.WF) (l : Loc) : a.valid l ↔ ∃ x, a.read l = some x :=
  validIn_iff_read h.ids l

/-- Locations stay valid when everything old still reads. -/
theorem LArena.valid_mono {a a' : LArena} (h : a.WF) (h' : a'.WF)
    (hm : ∀ l y, a.read l = some y → a'.read l = some y) {l : Loc} (hv : a.valid l) : a'.valid l :=
  have ⟨y, hy⟩ := (LArena.valid_iff_read h l).mp hv
  (LArena.valid_iff_read h' l).mpr ⟨y, hm l y hy⟩

/-- What a successful first-fit does to the list. -/
theorem fitIn_spec {s : Bytes} {bs bs' : List Bucket} {loc : Loc} (h : LArena.fitIn s bs = some (bs', loc)) :
    ∃ pre b post, bs = pre ++ b :: post ∧ bs' = pre ++ { b with data := b.data ++ s } :: post ∧
      b.data.length + s.length ≤ b.cap ∧ loc = { bid := b.id, off := b.data.length, len := s.length } := by
  induction bs generalizing bs' loc with
  | nil => simp [LArena.fitIn] at h
  | cons c rest ih =>
    unfold LArena.fitIn at h
    split at h
    · simp at h
      obtain ⟨rfl, rfl⟩ := h
      exact ⟨[], c, rest, rfl, rfl, by assumption, rfl⟩
    · split at h <;> simp at h
      next r l heq =>
        obtain ⟨rfl, rfl⟩ := h
        obtain ⟨pre, b, post, h1, h2, h3, h4⟩ := ih heq
        exact ⟨c :: pre, b, post, by simp [h1], by simp [h2], h3, h4⟩

theorem fitIn_none {s : Bytes} {bs : List Bucket} (h : LArena.fitIn s bs = none) :
    ∀ b ∈ bs, b.cap < b.data.length + s.length := by
  induction bs with
  | nil => simp
  | cons c rest ih =>
    unfold LArena.fitIn at h
    split at h
    · simp at h
    · split at h <;> simp at h
      next heq =>
        intro b hb
        rcases List.mem_cons.mp hb with rfl | hb
        · omega
        · exact ih heq b hb

theorem sumCaps_update (pre post : List Bucket) (b b' : Bucket) (h : b'.cap = b.cap) :
    sumCaps (pre ++ b' :: post) = sumCaps (pre ++ b :: post) := by
  simp [sumCaps_append, sumCaps_cons, h]

/-- A successful `grow` pushes one new block, with the next id and holding exactly `s`, at the head. -/
theorem LArena.grow_ok {a a' : LArena} {s : Bytes} {r : StrRef} (hs : a.grow s = .ok (a', r)) :
    ∃ cap, s.length ≤ cap ∧ a.usage + cap ≤ a.max ∧ r = .arena ⟨a.nextId, 0, s.length⟩ ∧
      a'.buckets = ⟨a.nextId, cap, s⟩ :: a.buckets ∧ a'.nextId = a.nextId + 1 ∧ a'.usage = a.usage + cap ∧
      a'.max = a.max ∧ (0 < a.bucketCap → 0 < a'.bucketCap) := by
  unfold LArena.grow at hs
  grind

/-- What a successful `store` did (same statement as `Arena.store_ok`, on `buckets`). -/
theorem LArena.store_ok {a a' : LArena} {s : Bytes} {r : StrRef} (hs : a.store s = .ok (a', r)) :
    (s.length = 0 ∧ a' = a ∧ r = .empty) ∨
    (s.length ≠ 0 ∧ ∃ loc d, r = .arena loc ∧ Stores s a.buckets a.nextId a'.buckets a'.nextId loc d ∧
      a'.usage = a.usage + d ∧ (d = 0 ∨ (0 < d ∧ a.usage + d ≤ a.max)) ∧ a'.max = a.max ∧
      (0 < a.bucketCap → 0 < a'.bucketCap)) := by
  unfold LArena.store at hs
  split at hs
  · simp only [Out.ok.injEq, Prod.mk.injEq] at hs
    exact .inl ⟨‹_›, hs.1.symm, hs.2.symm⟩
  refine .inr ⟨‹_›, ?_⟩
  split at hs
  next bs loc heq =>
    simp only [Out.ok.injEq, Prod.mk.injEq] at hs
    obtain ⟨rfl, rfl⟩ := hs
    obtain ⟨pre, b, post, e1, e2, hle, rfl⟩ := fitIn_spec heq
    exact ⟨_, 0, rfl, .fill ((List.Perm.of_eq e1).trans List.perm_middle) ((List.Perm.of_eq e2).trans List.perm_middle) hle,
      rfl, .inl rfl, rfl, id⟩
  · obtain ⟨cap, hle, hb, rfl, e, en, hu, hm, hc⟩ := LArena.grow_ok hs
    exact ⟨_, cap, rfl, en ▸ .fresh (.of_eq e) hle, hu, .inr ⟨by omega, hb⟩, hm, hc⟩

theorem LArena.store_total (a : LArena) (s : Bytes) :
    (∃ a' r, a.store s = .ok (a', r)) ∨
    (a.store s = .err .memoryLimit ∧ s.length ≠ 0 ∧ a.usage + s.length > a.max ∧ LArena.fitIn s a.buckets = none) := by
  unfold LArena.store LArena.grow
  grind

theorem LArena.store_no_fault {a : LArena} (s : Bytes) (f : Fault) : a.store s ≠ .fault f := by
  rcases LArena.store_total a s with ⟨_, _, e⟩ | ⟨e, _⟩ <;> simp [e]

theorem LArena.store_err {a : LArena} {s : Bytes} {e : Err} (hs : a.store s = .err e) :
    e = .memoryLimit ∧ s.length ≠ 0 ∧ a.usage + s.length > a.max ∧ LArena.fitIn s a.buckets = none := by
  rcases LArena.store_total a s with ⟨_, _, h⟩ | ⟨h, h'⟩ <;> rw [h] at hs
  · simp at hs
  · injection hs with hs; exact ⟨hs.symm, h'⟩

theorem LArena.store_err_of {a : LArena} {s : Bytes} (h0 : s.length ≠ 0) (h1 : LArena.fitIn s a.buckets = none)
    (h2 : a.usage + s.length > a.max) : a.store s = .err .memoryLimit := by
  unfold LArena.store LArena.grow
  simp only [h0, h1, ↓reduceIte]
  grind

theorem LArena.store_usage {a a' : LArena} {s : Bytes} {r : StrRef} (hs : a.store s = .ok (a', r)) :
    a'.max = a.max ∧ (a'.usage = a.usage ∨ (a.usage < a'.usage ∧ a'.usage ≤ a.max)) := by
  rcases LArena.store_ok hs with ⟨_, rfl, _⟩ | ⟨_, _, d, _, _, hu, hd, hm, _⟩
  · exact ⟨rfl, .inl rfl⟩
  · exact ⟨hm, by omega⟩

theorem LArena.store_nonempty_ref {a a' : LArena} {s : Bytes} {r : StrRef} (hs : a.store s = .ok (a', r)) :
    (s.length = 0 ∧ r = .empty ∧ a' = a) ∨ (s.length ≠ 0 ∧ ∃ loc, r = .arena loc ∧ loc.len = s.length) := by
  rcases LArena.store_ok hs with ⟨h0, e, hr⟩ | ⟨h0, loc, _, hr, hst, _⟩
  · exact .inl ⟨h0, hr, e⟩
  · exact .inr ⟨h0, loc, hr, hst.len⟩

theorem LArena.store_wf {a a' : LArena} {s : Bytes} {r : StrRef} (h : a.WF) (hs : a.store s = .ok (a', r)) : a'.WF := by
  rcases LArena.store_ok hs with ⟨_, rfl, _⟩ | ⟨_, _, _, _, hst, hu, _, _, hc⟩
  · exact h
  · have hb := hst.wf h.blocks
    exact ⟨hb.fits, hb.ids, hb.fresh, by rw [hu, h.usage_eq, hst.sumCaps], hc h.capPos⟩

theorem LArena.store_read_new {a a' : LArena} {s : Bytes} {loc : Loc} (h : a.WF)
    (hs : a.store s = .ok (a', .arena loc)) : a'.read loc = some s := by
  rcases LArena.store_ok hs with ⟨_, _, hr⟩ | ⟨_, _, _, hr, hst, _⟩
  · simp at hr
  · injection hr with hr; subst hr; exact hst.read_new h.blocks

theorem LArena.store_read_old {a a' : LArena} {s : Bytes} {r : StrRef} (h : a.WF)
    (hs : a.store s = .ok (a', r)) (l : Loc) (x : Bytes) (hr : a.read l = some x) : a'.read l = some x := by
  rcases LArena.store_ok hs with ⟨_, rfl, _⟩ | ⟨_, _, _, _, hst, _⟩
  · exact hr
  · exact hst.read_old h.blocks hr

/-- A string that fits the head block is stored there. -/
theorem LArena.store_head_fit (a : LArena) (b : Bucket) (rest : List Bucket) (x : Bytes)
    (hb : a.buckets = b :: rest) (hfit : x.length ≤ b.cap - b.data.length) :
    ∃ a' ref, a.store x = .ok (a', ref) ∧ a'.buckets = { b with data := b.data ++ x } :: rest := by
  by_cases h0 : x.length = 0
  · have : x = [] := List.eq_nil_of_length_eq_zero h0
    subst this
    exact ⟨a, .empty, by simp [LArena.store], by simp [hb]⟩
  · refine ⟨{ a with buckets := { b with data := b.data ++ x } :: rest },
      .arena { bid := b.id, off := b.data.length, len := x.length }, ?_, rfl⟩
    unfold LArena.store
    simp only [h0, ↓reduceIte, hb, LArena.fitIn]
    rw [if_pos (by omega)]

end Lasso
