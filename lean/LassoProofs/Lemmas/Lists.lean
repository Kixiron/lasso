/-
  Facts about lists that several parts of the development share: lists whose images under a key function
  have no duplicates, and counting distinct naturals below a bound.
-/
namespace Lasso

/-- A key function without duplicate values on `l` is injective on `l`. -/
theorem eq_of_nodup_map {f : α → β} {l : List α} (h : (l.map f).Nodup) {a b : α} (ha : a ∈ l) (hb : b ∈ l)
    (e : f a = f b) : a = b :=
  have hp : l.Pairwise fun a b => f a = f b → a = b := (List.pairwise_map.mp h).imp fun hne e => absurd e hne
  hp.forall_of_forall_of_flip (fun _ _ _ => rfl) (hp.imp fun h e => (h e.symm).symm) ha hb e

theorem nodup_of_nodup_map {f : α → β} {l : List α} (h : (l.map f).Nodup) : l.Nodup :=
  (List.pairwise_map.mp h).imp fun hne e => hne (congrArg f e)

theorem nodup_map_of_inj_on {f : α → β} {l : List α} (hnd : l.Nodup)
    (hinj : ∀ a ∈ l, ∀ b ∈ l, f a = f b → a = b) : (l.map f).Nodup :=
  List.pairwise_map.mpr (hnd.imp_of_mem fun ha hb hne e => hne (hinj _ ha _ hb e))

/-- Distinct naturals below `n`: at most `n` of them. -/
theorem nodup_lt_len {l : List Nat} {n : Nat} (hnd : l.Nodup) (hlt : ∀ x ∈ l, x < n) : l.length ≤ n := by
  have hsub : l ⊆ List.range n := fun x hx => List.mem_range.mpr (hlt x hx)
  simpa using hnd.length_le_of_subset hsub

/-- Two lists whose keys are duplicate-free and the same have the same length. -/
theorem length_eq_of_same_keys {f : α → κ} {g : β → κ} {l : List α} {l' : List β} (d : (l.map f).Nodup)
    (d' : (l'.map g).Nodup) (h : ∀ a ∈ l, ∃ b ∈ l', g b = f a) (h' : ∀ b ∈ l', ∃ a ∈ l, f a = g b) :
    l.length = l'.length := by
  have hp : (l.map f).Perm (l'.map g) := by
    rw [List.perm_ext_iff_of_nodup d d']
    intro k
    simp only [List.mem_map]
    exact ⟨fun ⟨a, ha, e⟩ => let ⟨b, hb, e'⟩ := h a ha; ⟨b, hb, e'.trans e⟩,
      fun ⟨b, hb, e⟩ => let ⟨a, ha, e'⟩ := h' b hb; ⟨a, ha, e'.trans e⟩⟩
  simpa using hp.length_eq

theorem forall_mem_concat {P : α → Prop} {l : List α} {a : α} (h : ∀ e ∈ l, P e) (ha : P a) :
    ∀ e ∈ l ++ [a], P e :=
  List.forall_mem_append.mpr ⟨h, List.forall_mem_singleton.mpr ha⟩

/-- Two lists that agree under two pairs of projections agree entry by entry. -/
theorem exists_of_map_eq_map {f : α → γ} {f' : β → γ} {g : α → δ} {g' : β → δ} {l : List α} {l' : List β}
    (hf : l.map f = l'.map f') (hg : l.map g = l'.map g') : ∀ b ∈ l', ∃ a ∈ l, f a = f' b ∧ g a = g' b := by
  induction l' generalizing l with
  | nil => simp
  | cons b rest ih =>
    cases l with
    | nil => simp at hf
    | cons a l =>
      simp only [List.map_cons, List.cons.injEq] at hf hg
      intro b' hb'
      rcases List.mem_cons.mp hb' with rfl | hb'
      · exact ⟨a, by simp, hf.1, hg.1⟩
      · obtain ⟨a', ha', h⟩ := ih hf.2 hg.2 b' hb'
        exact ⟨a', by simp [ha'], h⟩

theorem filterMap_eq_map_of {f : α → Option β} {g : α → β} {l : List α} (h : ∀ a ∈ l, f a = some (g a)) :
    l.filterMap f = l.map g := by
  induction l with
  | nil => rfl
  | cons x rest ih =>
    simp only [List.filterMap_cons, h x (by simp), List.map_cons]
    rw [ih (fun a ha => h a (by simp [ha]))]

end Lasso
