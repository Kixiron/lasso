import LassoProofs.Lemmas.Conc
import LassoProofs.Lemmas.Threaded
/-
  The interner-level interleaving machine (`Conc`), run by one thread, *is* the sequential model of
  `ThreadedRodeo` (`Threaded.tryIntern`, on which the single-thread theorems of C01, C02, C07, C10 about
  the concurrent interner are proved): `C03.solo_calls_are_sequential_model`, put together from the runs here.
  The machine identifies strings with their contents, the sequential model keeps references into its arena;
  states are related through what the lookups answer.

  Both sides have the same shape.  The two entry points begin with the lookup (`solo_hit`, `solo_miss`) and, once
  it has answered "absent", end with the same code over a reference `ref` into an arena `a'`: `Threaded.mint`
  there, the steps from `.locked x false` here (`solo_mint`).  They differ in where `ref` comes from.
-/
namespace Lasso.Conc
open Lasso

/-- Same arena, same counter, no lock held, and both directions of lookup answer the same. -/
structure RelT (env : Env) (s : CS) (t : Threaded) : Prop where
  arena : s.arena = t.arena
  ctr : s.ctr = t.ctr
  locks : s.locks = []
  strs : ∀ k y, strGet s.strs k = some y ↔ t.str env k = some y
  map : ∀ x k, mapGet s.map x = some k ↔ t.str env k = some x

/-- How the sequential model's result appears in the machine's log. -/
def resOf : Out Nat → Res
  | .ok k => .key k
  | .err e => .err e
  | _ => .err .memoryLimit

theorem run_solo_add {sh : Bytes → Nat} {N : Nat} {s s1 : CS} {m : Nat} (h : run sh N s (List.replicate m 0) = s1) (n : Nat) :
    run sh N s (List.replicate (m + n) 0) = run sh N s1 (List.replicate n 0) := by
  rw [← List.replicate_append_replicate, run_append, h]

variable (sh : Bytes → Nat) {env : Env} {s : CS} {t : Threaded} {x : Bytes} {rest : List Call}

theorem RelT.get (hR : RelT env s t) (hI : t.Inv env) (x : Bytes) : mapGet s.map x = t.get env x :=
  Option.ext fun k => (hR.map x k).trans (Threaded.get_spec hI x k).symm

/-- The lock-free lookup of either entry point (`st`: the static one) finds the string. -/
theorem solo_hit (hR : RelT env s t) (hI : t.Inv env) (st : Bool) (ht : s.ts = [⟨.idle, callOf x st :: rest⟩]) {k : Nat}
    (hg : t.get env x = some k) :
    ∃ s', run sh t.N s (List.replicate 1 0) = s' ∧ s'.ts = [⟨.idle, rest⟩] ∧ RelT env s' t ∧
      s'.log = (0, callOf x st, .key k) :: s.log := by
  rw [← hR.get hI] at hg
  refine ⟨{ s with ts := [⟨.idle, rest⟩], log := (0, callOf x st, .key k) :: s.log }, ?_, rfl,
    ⟨hR.arena, hR.ctr, hR.locks, hR.strs, hR.map⟩, rfl⟩
  cases st <;> simp [List.replicate, run, step, callOf, ht, hR.locks, lockOwner, hg, finish]

/-- Neither that lookup nor the second one, under the shard lock, finds it. -/
theorem solo_miss (hR : RelT env s t) (hI : t.Inv env) (st : Bool) (ht : s.ts = [⟨.idle, callOf x st :: rest⟩])
    (hg : t.get env x = none) :
    run sh t.N s (List.replicate 2 0) = { s with locks := [(sh x, 0)], ts := [⟨.locked x (!st), rest⟩] } := by
  rw [← hR.get hI] at hg
  cases st <;> simp [List.replicate, run, step, callOf, ht, hR.locks, lockOwner, hg, setThread]

/-- The machine's `Threaded.mint`: key fetch and check, then either the key is burnt or the two inserts follow; the
lock is released either way.  `x` is new, and `ref` denotes it in `a'`, which has everything `t.arena` had. -/
theorem solo_mint (hR : RelT env s t) (hI : t.Inv env) {a' : LArena} {ref : StrRef}
    (hf : FreshRef env t.arena.valid a'.valid t.arena.read a'.read x ref) (hnew : ∀ k, t.str env k ≠ some x)
    (rest : List Call) :
    ∃ n s', run sh t.N { s with arena := a', locks := [(sh x, 0)], ts := [⟨.locked x false, rest⟩] } (List.replicate n 0) = s' ∧
      s'.ts = [⟨.idle, rest⟩] ∧ RelT env s' (t.mint a' ref).1 ∧ s'.log = (0, .intern x, resOf (t.mint a' ref).2) :: s.log := by
  obtain ⟨-, hctr, -, hs, hm⟩ := hR
  have hle := hI.lenLe
  unfold Threaded.mint
  by_cases hlt : t.strs.length < t.N
  · have hidx : s.ctr = t.strs.length := by rcases hI.ctr with h | h <;> omega
    have hkey : keyOfIndex t.N s.ctr = some (s.ctr + 1) := by simp [keyOfIndex, hidx, hlt]
    rw [if_pos hlt]
    refine ⟨3, { s with arena := a', ctr := s.ctr + 1, strs := strInsert s.ctr x s.strs, map := s.map ++ [(x, s.ctr)],
                        locks := [], ts := [⟨.idle, rest⟩], log := (0, .intern x, .key s.ctr) :: s.log },
      by simp [List.replicate, run, step, hkey, finish, unlock], rfl,
      ⟨rfl, congrArg (· + 1) hctr, rfl, fun k y => ?_, fun y k => ?_⟩, by rw [hidx]; rfl⟩
    · show assocGet k (assocInsert s.ctr x s.strs) = some y ↔ _
      rw [assocGet_assocInsert, Threaded.pushState_str hI hf.mono hf.content, hidx,
        show assocGet k s.strs = t.str env k from Option.ext (hs k)]
    · show assocGet y (s.map ++ [(x, s.ctr)]) = some k ↔ _
      rw [assocGet_append, assocGet_cons, Threaded.pushState_str hI hf.mono hf.content, hidx, Option.or_eq_some_iff,
        show assocGet y s.map = some k ↔ _ from hm y k]
      by_cases hy : x = y
      · -- `x` is new: the key it gets is its only one
        subst hy
        have hx : assocGet x s.map = none := Option.eq_none_iff_forall_ne_some.mpr fun k h => hnew k ((hm x k).mp h)
        by_cases hk : k = t.strs.length
        · simp [hk, hx]
        · simp [hk, Ne.symm hk, hnew k]
      · -- another string: the key `len` denoted nothing and now denotes `x`
        have hend : t.str env t.strs.length ≠ some y := fun h => Nat.lt_irrefl _ ((Threaded.lt_len_iff hI _).mpr ⟨y, h⟩)
        by_cases hk : k = t.strs.length
        · simp [hk, hy, hend, assocGet]
        · simp [hk, hy, assocGet]
  · have hkey : keyOfIndex t.N s.ctr = none := by
      have : ¬ t.ctr < t.N := by rcases hI.ctr with h | h <;> omega
      simp [keyOfIndex, hctr, this]
    have hstr : ∀ k, ({ t with arena := a', ctr := t.ctr + 1 } : Threaded).str env k = t.str env k :=
      fun k => (Threaded.str_def ..).trans (Threaded.str_mono hI hf.mono k)
    rw [if_neg hlt]
    exact ⟨1, { s with arena := a', ctr := s.ctr + 1, locks := [], ts := [⟨.idle, rest⟩],
                       log := (0, .intern x, .err .keySpace) :: s.log },
      by simp [List.replicate, run, step, hkey, finish, unlock], rfl,
      ⟨rfl, congrArg (· + 1) hctr, rfl, fun k y => by rw [hstr]; exact hs k y, fun y k => by rw [hstr]; exact hm y k⟩, rfl⟩

end Lasso.Conc
