import LassoModel.Ctor
/-
  Constructors: the interpretation of the regenerated constructor / builder tables equals the documented
  closed form, for every constructor of both interners, every `Capacity` and `MemoryLimits` builder and
  all numeric arguments.  Each table is compared with its own part of the documentation (names are
  enumerated, numbers stay variables); `ctorConfig` is then the composition on both sides.
-/
namespace Lasso
open Lasso.Source

theorem capOf_is_documented (name : BuilderName) (strings bytes : Nat) :
    capOf name strings bytes = capDoc name strings bytes := by
  cases name <;> rfl

theorem limOf_is_documented (name : BuilderName) (limit : Nat) :
    limOf name limit = limDoc name limit := by
  cases name <;> rfl

/-- `Extracted.ctorSpecs`: a constructor hands on the caller's setting where it takes one (`ctorTakes`), the
default otherwise. -/
theorem ctorArgs_is_documented (owner : Wrapper) (ho : owner = .rodeo ∨ owner = .threaded)
    (c : CtorName) (cap : Nat × Nat) (lim : Nat) :
    ctorArgs owner c cap lim =
      (ctorTakes c).map fun t => (if t.1 then cap else (50, 4096), if t.2 then lim else usizeMaxNat) := by
  rcases ho with rfl | rfl <;> cases c <;> rfl

/-- `Extracted.fullCtors`: bytes to the arena's first block, limit to the arena, strings to the pre-sizing. -/
theorem fullConfig_is_documented (owner : Wrapper) (ho : owner = .rodeo ∨ owner = .threaded)
    (cap : Nat × Nat) (lim : Nat) :
    fullConfig owner cap lim = some { arenaBytes := cap.2, arenaMax := lim, presize := cap.1 } := by
  rcases ho with rfl | rfl <;> rfl

/-- For both interners: what `Owner::<c>(Capacity::<capB>(strings, bytes), MemoryLimits::<limB>(limit), ..)`
builds - first block, limit, pre-sizing - is the documented configuration. -/
theorem ctorConfig_is_documented (owner : Wrapper) (ho : owner = .rodeo ∨ owner = .threaded)
    (c : CtorName) (capB : BuilderName) (strings bytes : Nat) (limB : BuilderName) (limit : Nat) :
    ctorConfig owner c capB strings bytes limB limit = ctorConfigDoc c capB strings bytes limB limit := by
  simp only [ctorConfig, ctorConfigDoc, capOf_is_documented, limOf_is_documented,
    ctorArgs_is_documented owner ho, fullConfig_is_documented owner ho]
  cases capDoc capB strings bytes <;> cases limDoc limB limit <;> rcases ctorTakes c with _ | ⟨tc, tl⟩ <;> rfl

/-- The documented first block is `bytes`, 4096 or 1: never empty when the caller's `bytes` is not. -/
theorem ctorConfigDoc_arenaBytes_pos {c : CtorName} {capB limB : BuilderName} {strings bytes limit : Nat}
    {cfg : CtorConfig} (hb : 0 < bytes) (h : ctorConfigDoc c capB strings bytes limB limit = some cfg) :
    0 < cfg.arenaBytes := by
  unfold ctorConfigDoc capDoc at h
  grind

/-- Whatever is built from the interpreted configuration is built from the documented one. -/
theorem construct_is_documented {α : Type} {owner : Wrapper} (ho : owner = .rodeo ∨ owner = .threaded)
    {c : CtorName} {capB limB : BuilderName} {strings bytes limit : Nat} (hb : 0 < bytes) {f : CtorConfig → α} {x : α}
    (h : (ctorConfig owner c capB strings bytes limB limit).map f = some x) :
    ∃ cfg, ctorConfigDoc c capB strings bytes limB limit = some cfg ∧ x = f cfg ∧ 0 < cfg.arenaBytes := by
  rw [ctorConfig_is_documented owner ho, Option.map_eq_some_iff] at h
  obtain ⟨cfg, hc, rfl⟩ := h
  exact ⟨cfg, hc, rfl, ctorConfigDoc_arenaBytes_pos hb hc⟩

end Lasso
