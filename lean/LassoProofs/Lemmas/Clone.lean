import LassoProofs.Lemmas.Paths
/-
  `clone_strings_into`, `try_clone`, `try_clone_from`.

  What an interner holds is said once, by the model's own `Rodeo.contents`: `contents … = some cs` means key `j`
  denotes `cs[j]`, and there are `cs.length` keys.  The loops that store and insert one string after the other
  (`clone_strings_into` here, the deserialisers in `Serde.lean`) take a state holding `cs` to one holding
  `cs ++ xs`.
-/
namespace Lasso
set_option linter.unusedSimpArgs false

/-! ### The list of contents -/

theorem contents_eq_some_iff {env : Env} {read : Loc → Option Bytes} {ss : List StrRef} {cs : List Bytes} :
    Rodeo.contents env read ss = some cs ↔ ss.map (contentOf env read) = cs.map some := by
  induction ss generalizing cs with
  | nil => cases cs <;> simp [Rodeo.contents]
  | cons r rest ih =>
    cases cs with
    | nil => simp only [Rodeo.contents]; split <;> simp
    | cons c cs' =>
      simp only [Rodeo.contents, List.map_cons, List.cons.injEq, ← ih]
      split <;> simp_all

theorem strAt_of_contents {env : Env} {read : Loc → Option Bytes} {ss : List StrRef} {cs : List Bytes}
    (h : Rodeo.contents env read ss = some cs) : ss.length = cs.length ∧ ∀ j, strAt env read ss j = cs[j]? := by
  rw [contents_eq_some_iff] at h
  refine ⟨by simpa using congrArg List.length h, fun j => ?_⟩
  have : (ss[j]?).map (contentOf env read) = (cs[j]?).map some := by
    simpa only [List.getElem?_map] using congrArg (·[j]?) h
  unfold strAt
  cases hs : ss[j]? <;> cases hc : cs[j]? <;> simp [hs, hc] at this ⊢
  exact this

theorem strAt_eq_of_contents {env : Env} {read read' : Loc → Option Bytes} {ss ss' : List StrRef} {cs : List Bytes}
    (h : Rodeo.contents env read ss = some cs) (h' : Rodeo.contents env read' ss' = some cs) :
    ss'.length = ss.length ∧ ∀ j, strAt env read' ss' j = strAt env read ss j := by
  have ⟨hl, hs⟩ := strAt_of_contents h
  have ⟨hl', hs'⟩ := strAt_of_contents h'
  exact ⟨hl'.trans hl.symm, fun j => (hs' j).trans (hs j).symm⟩

theorem Rodeo.contents_of_inv {env : Env} {r : Rodeo} (h : r.Inv env) :
    ∃ cs, Rodeo.contents env r.arena.read r.strings = some cs ∧ cs.Nodup ∧ cs.length ≤ r.N := by
  have hc : Rodeo.contents env r.arena.read r.strings
      = some (r.strings.map fun ref => (contentOf env r.arena.read ref).getD []) := by
    rw [contents_eq_some_iff, List.map_map]
    apply List.map_congr_left
    intro ref hr
    obtain ⟨y, hy⟩ := h.content_some ref hr
    simp [hy]
  refine ⟨_, hc, ?_, by simpa using h.lenLe⟩
  obtain ⟨_, hs⟩ := strAt_of_contents hc
  rw [List.nodup_iff_pairwise_ne, List.pairwise_iff_getElem]
  intro i j hi hj hij heq
  have e1 := hs i
  have e2 := hs j
  rw [List.getElem?_eq_getElem hi, heq] at e1
  rw [List.getElem?_eq_getElem hj] at e2
  have := h.distinct i j _ e1 e2
  omega

theorem map_contentOf_mono {env : Env} {read read' : Loc → Option Bytes}
    (hm : ∀ l y, read l = some y → read' l = some y) {ss : List StrRef} {cs : List Bytes}
    (hc : ss.map (contentOf env read) = cs.map some) : ss.map (contentOf env read') = cs.map some := by
  rw [← hc]
  apply List.map_congr_left
  intro ref hr
  have : contentOf env read ref ∈ cs.map some := hc ▸ List.mem_map_of_mem hr
  obtain ⟨y, _, hy⟩ := List.mem_map.mp this
  rw [← hy]; exact contentOf_mono hm hy.symm

theorem contents_push {env : Env} {read read' : Loc → Option Bytes} {ss : List StrRef} {cs : List Bytes}
    {ref : StrRef} {x : Bytes} (hm : ∀ l y, read l = some y → read' l = some y)
    (hx : contentOf env read' ref = some x) (hc : Rodeo.contents env read ss = some cs) :
    Rodeo.contents env read' (ss ++ [ref]) = some (cs ++ [x]) := by
  rw [contents_eq_some_iff] at hc ⊢
  simp [hx, map_contentOf_mono hm hc]

/-- The rodeo made of the loop variables of `clone_strings_into`. -/
def Rodeo.ofParts (t : Table) (ss : List StrRef) (a : Arena) (N : Nat) : Rodeo :=
  { table := t, strings := ss, arena := a, N := N }

theorem Rodeo.ofParts_self (r : Rodeo) : Rodeo.ofParts r.table r.strings r.arena r.N = r := rfl

/-- Complete behaviour of the `clone_strings_into` loop from a well-formed state holding `cs`, when no string
comes twice: it ends holding `cs ++ xs`, or the keys run out, or the memory limit is hit — which takes a string
that does not fit the current block. -/
theorem Rodeo.cloneInto_spec {env : Env} (grow : Bool) (xs : List Bytes) :
    ∀ (r : Rodeo) (cs : List Bytes), r.Inv env → Rodeo.contents env r.arena.read r.strings = some cs →
    (cs ++ xs).Nodup →
    (∃ t ss a, Rodeo.cloneInto env r.N grow xs r.strings.length r.table r.strings r.arena = .ok (t, ss, a) ∧
        (Rodeo.ofParts t ss a r.N).Inv env ∧ Rodeo.contents env a.read ss = some (cs ++ xs) ∧
        a.max = r.arena.max) ∨
    (Rodeo.cloneInto env r.N grow xs r.strings.length r.table r.strings r.arena = .err .keySpace ∧
        r.N < (cs ++ xs).length) ∨
    (Rodeo.cloneInto env r.N grow xs r.strings.length r.table r.strings r.arena = .err .memoryLimit ∧
        r.arena.cur.free < sumNat (xs.map List.length)) := by
  induction xs with
  | nil =>
    intro r cs h hc _
    exact Or.inl ⟨r.table, r.strings, r.arena, rfl, h, by simpa using hc, rfl⟩
  | cons x rest ih =>
    intro r cs h hc hnd
    obtain ⟨hlen, hstr⟩ := strAt_of_contents hc
    have hxnew : ∀ k, r.str env k ≠ some x := by
      intro k hk
      have : x ∈ cs := List.mem_of_getElem? ((hstr k).symm.trans hk)
      exact (List.nodup_append.mp hnd).2.2 x this x (by simp) rfl
    unfold Rodeo.cloneInto
    simp only [List.map_cons, sumNat]
    cases hst : r.arena.store x with
    | err e =>
      obtain ⟨rfl, _, hbig, _⟩ := Arena.store_err hst
      exact Or.inr (Or.inr ⟨rfl, by omega⟩)
    | panic => exact absurd hst (Arena.store_no_panic x)
    | fault f => exact absurd hst (Arena.store_no_fault h.wf x f)
    | ok p =>
      obtain ⟨a', ref⟩ := p
      obtain ⟨hwf', hmax, hf⟩ := Arena.store_fresh env h.wf hst
      have hnone : tfind env.hash (r.str env) r.table x = none := by
        cases hf' : tfind env.hash (r.str env) r.table x with
        | none => rfl
        | some k => exact absurd (tfind_some hf').1 (hxnew k)
      simp only [Rodeo.find_push h ref hf.mono x, hnone]
      unfold keyOfIndex
      by_cases hlt : r.strings.length < r.N
      · simp only [hlt, ↓reduceIte, Rodeo.insert_push h ref hf.mono _ grow]
        have hp := Rodeo.push_inv h hwf' hmax hf hxnew hlt
        -- recurse on the pushed interner, which holds `cs ++ [x]`
        have := ih _ (cs ++ [x]) hp.inv (contents_push hf.mono hf.content hc) (by simpa using hnd)
        simp only [Rodeo.pushed, List.length_append, List.length_singleton, List.append_assoc,
          List.singleton_append] at this
        rcases this with ⟨t, ss, a, he, hi, hcs, hm⟩ | ⟨he, hN⟩ | ⟨he, hmem⟩
        · exact Or.inl ⟨t, ss, a, he, hi, hcs, hm.trans hmax⟩
        · exact Or.inr (Or.inl ⟨he, by simpa using hN⟩)
        · refine Or.inr (Or.inr ⟨he, ?_⟩)
          -- had everything fitted, `x` would have gone into the current block
          apply Nat.lt_of_not_le
          intro hfit
          obtain ⟨a'', _, hst', hfree, _⟩ := Arena.store_fit_free r.arena x (by omega)
          rw [hst] at hst'
          injection hst' with hst'; injection hst' with ha _
          subst ha
          omega
      · exact Or.inr (Or.inl ⟨by simp [hlt], by simp; omega⟩)

/-- `try_clone` of a well-formed interner always succeeds (every string fits the clone's first
block, whatever the limits) and yields a well-formed interner with the same key->string pairs. -/
theorem Rodeo.tryClone_total {env : Env} {r : Rodeo} (h : r.Inv env) (grow : Bool) :
    ∃ r', r.tryClone env grow = .ok r' ∧ r'.Inv env ∧ r'.N = r.N ∧ r'.strings.length = r.strings.length ∧
      ∀ j, r'.str env j = r.str env j := by
  obtain ⟨cs, hcs, hnd, hle⟩ := Rodeo.contents_of_inv h
  unfold Rodeo.tryClone
  simp only [hcs]
  generalize hcap : (if sumNat (cs.map List.length) = 0 then 4096 else sumNat (cs.map List.length)) = cap
  have hcap0 : 0 < cap := by subst hcap; split <;> omega
  have hcapge : sumNat (cs.map List.length) ≤ cap := by subst hcap; split <;> omega
  have hspec := Rodeo.cloneInto_spec grow cs (Rodeo.new r.N cap (Nat.max r.arena.max cap)) []
    (Rodeo.new_inv env r.N cap _ hcap0) rfl (by simpa using hnd)
  simp only [Rodeo.new, Arena.new, Bucket.free, List.length_nil, List.nil_append] at hspec
  rcases hspec with ⟨t, ss, a, he, hi, hcs', _⟩ | ⟨_, hN⟩ | ⟨_, hmem⟩
  · simp only [Arena.new, he]
    obtain ⟨hl, hs⟩ := strAt_eq_of_contents hcs hcs'
    exact ⟨_, rfl, hi, rfl, hl, hs⟩
  · omega
  · simp at hmem; omega

/-- `try_clone_from`: either the target ends up with exactly the source's key->string pairs (nothing
of its previous content), or an error is reported. With equal key capacities the only possible
error is the memory limit of the *target*. -/
theorem Rodeo.tryCloneFrom_spec {env : Env} {target source : Rodeo} (ht : target.Inv env) (hs : source.Inv env)
    (hN : target.N = source.N) (grow : Bool) :
    (∃ r', Rodeo.tryCloneFrom env target source grow = .ok r' ∧ r'.Inv env ∧ r'.N = target.N ∧
        r'.strings.length = source.strings.length ∧ (∀ j, r'.str env j = source.str env j) ∧
        r'.arena.max = target.arena.max) ∨
    Rodeo.tryCloneFrom env target source grow = .err .memoryLimit := by
  obtain ⟨cs, hcs, hnd, hle⟩ := Rodeo.contents_of_inv hs
  unfold Rodeo.tryCloneFrom
  simp only [hcs]
  have hspec := Rodeo.cloneInto_spec grow cs target.clear [] (Rodeo.clear_inv ht) rfl (by simpa using hnd)
  simp only [Rodeo.clear, List.length_nil, List.nil_append] at hspec
  rcases hspec with ⟨t, ss, a, he, hi, hcs', hm⟩ | ⟨_, hN'⟩ | ⟨he, _⟩
  · left
    simp only [Rodeo.clear, he]
    obtain ⟨hl, hs⟩ := strAt_eq_of_contents hcs hcs'
    exact ⟨_, rfl, hi, rfl, hl, hs, by simpa [Arena.clear] using hm⟩
  · omega
  · right; simp only [Rodeo.clear, he]

end Lasso
