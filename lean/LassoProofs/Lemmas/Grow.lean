import LassoModel.Arena
import LassoModel.Grow
import LassoModel.Extracted
/-
  Translation validation for the growth logic of the two arenas: the decision tree the extractor
  regenerates from `store_str` on every run (`Extracted.arenaGrow`, `Extracted.lockfreeGrow`),
  evaluated by `Grow.eval`, determines exactly what the hand-written model (`Arena.store`,
  `LArena.grow`) does — for every arena state and every string.  A change of the branch conditions,
  of the amount claimed, of the block size, of the stored capacity or of the placement in the source
  changes the tree and breaks these theorems (or, if the model is changed along with it, the theorems
  of C01/C04/C08 that are proved about the model).
-/
namespace Lasso
open Lasso.Source Lasso.Grow

/-! The proofs are split in two so that they survive harmless rewrites of the source: (1) the regenerated
tree evaluates to a closed-form specification of the four numbers involved: the evaluator's equations
turn the tree into nested `if`s over `Nat`, and `grind` (case splits + linear arithmetic) compares those with
the closed form, so `x * 2` vs `x + x`, `a > b` vs `b < a`, bound or inlined locals, negated conditions with
swapped branches all go through; (2) the specification is what the model does (independent of the source). -/

/-- Closed form of the growth decision (both arenas): oversized / remaining budget / doubled. -/
def growSpec (place1 place2 : GPlace) (env : Env) : Outcome :=
  if env.len > env.bucketCap * 2 then
    (if env.usage + env.len > env.max then .err else .grow env.len env.len none place1)
  else if env.usage + env.bucketCap * 2 > env.max then
    (if env.max - env.usage < env.len then .err
     else if env.max - env.usage = 0 then .err
     else .grow (env.max - env.usage) (env.max - env.usage) none place2)
  else .grow (env.bucketCap * 2) (env.bucketCap * 2) (some (env.bucketCap * 2)) place2

theorem arenaGrow_spec (env : Env) :
    Grow.eval env Extracted.arenaGrow = some (growSpec .insertBeforeLast .pushBack env) := by
  simp only [Extracted.arenaGrow, Grow.eval, Grow.evalE, Grow.evalC, Env.get, Env.set, Grow.evalAlloc,
    Option.bind_some, bind, pure, growSpec]
  grind

theorem lockfreeGrow_spec (env : Env) :
    Grow.eval env Extracted.lockfreeGrow = some (growSpec .pushFront .pushFront env) := by
  simp only [Extracted.lockfreeGrow, Grow.eval, Grow.evalE, Grow.evalC, Env.get, Env.set, Grow.evalAlloc,
    Option.bind_some, bind, pure, growSpec]
  grind

/-- What an outcome of the source's decision tree means for the single-threaded arena. -/
def Arena.applyOutcome (a : Arena) (s : Bytes) : Outcome → Out (Arena × StrRef)
  | .err => .err .memoryLimit
  | .grow claim size newCap place =>
    if s.length ≤ size then
      match place with
      | .pushBack =>
        .ok ({ a with usage := a.usage + claim, full := a.full ++ [a.cur], cur := Arena.freshBlock a.nextId size s,
                      bucketCap := newCap.getD a.bucketCap, nextId := a.nextId + 1 },
             .arena { bid := a.nextId, off := 0, len := s.length })
      | .insertBeforeLast =>
        .ok ({ a with usage := a.usage + claim, full := insertBeforeLast (Arena.freshBlock a.nextId size s) a.full,
                      bucketCap := newCap.getD a.bucketCap, nextId := a.nextId + 1 },
             .arena { bid := a.nextId, off := 0, len := s.length })
      | _ => .fault .oobWrite
    else .fault .oobWrite          -- the unchecked `push_slice` into a block that is too small

def Arena.env (a : Arena) (s : Bytes) : Env := { len := s.length, bucketCap := a.bucketCap, usage := a.usage, max := a.max }

/-- **The single-threaded arena's model is the source's decision tree.** -/
theorem arena_store_is_spec (a : Arena) (s : Bytes) (h0 : s.length ≠ 0) (hfit : ¬ s.length ≤ a.cur.free) :
    a.applyOutcome s (growSpec .insertBeforeLast .pushBack (a.env s)) = a.store s := by
  simp only [Arena.store, growSpec, h0, hfit, ↓reduceIte, Arena.env, Arena.storeOversize, Arena.storeRemaining,
    Arena.storeDouble]
  grind [Arena.applyOutcome]

/-- **The single-threaded arena's model is the source's decision tree.** -/
theorem arena_store_is_source_tree (a : Arena) (s : Bytes) (h0 : s.length ≠ 0) (hfit : ¬ s.length ≤ a.cur.free) :
    (Grow.eval (a.env s) Extracted.arenaGrow).map (a.applyOutcome s) = some (a.store s) := by
  rw [arenaGrow_spec, Option.map_some, arena_store_is_spec a s h0 hfit]

/-- What an outcome means for the lock-free arena (sequential semantics): new blocks go to the head. -/
def LArena.applyOutcome (a : LArena) (s : Bytes) : Outcome → Out (LArena × StrRef)
  | .err => .err .memoryLimit
  | .grow claim size newCap place =>
    if s.length ≤ size then
      match place with
      | .pushFront =>
        .ok ({ a with usage := a.usage + claim, bucketCap := newCap.getD a.bucketCap,
                      buckets := { id := a.nextId, cap := size, data := s } :: a.buckets, nextId := a.nextId + 1 },
             .arena { bid := a.nextId, off := 0, len := s.length })
      | _ => .fault .oobWrite
    else .fault .oobWrite

def LArena.env (a : LArena) (s : Bytes) : Env := { len := s.length, bucketCap := a.bucketCap, usage := a.usage, max := a.max }

/-- **The lock-free arena's growth model is the source's decision tree.** -/
theorem larena_grow_is_spec (a : LArena) (s : Bytes) :
    a.applyOutcome s (growSpec .pushFront .pushFront (a.env s)) = a.grow s := by
  simp only [LArena.grow, growSpec, LArena.env]
  grind [LArena.applyOutcome]

/-- **The lock-free arena's growth model is the source's decision tree.** -/
theorem larena_grow_is_source_tree (a : LArena) (s : Bytes) :
    (Grow.eval (a.env s) Extracted.lockfreeGrow).map (a.applyOutcome s) = some (a.grow s) := by
  rw [lockfreeGrow_spec, Option.map_some, larena_grow_is_spec a s]

/-- `Arena::allocate_memory` in the source is the check-then-add the model's `allocate` (and the
`claim` step of `Grow.evalAlloc`) assumes. -/
theorem arena_allocate_shape : Extracted.arenaAllocateIsCheckThenAdd = true := by decide

end Lasso
