import LassoProofs.Lemmas.ConcArenaSolo
import LassoProofs.Lemmas.ConcArenaHist
/-
  The atomic-operation-level arena machine, run by one thread, *is* the sequential lock-free arena model
  (`LArena.store`, the model the single-thread theorems of C01/C04/C08 about `ThreadedRodeo` are proved
  on): same block chosen, same offset, same bookkeeping.  States are related by their shapes
  (identity, capacity, reserved length of every block in list order; capacity, usage, limit, next id).
-/
namespace Lasso.CA
open Lasso Lasso.Grow

abbrev BShape := Nat × Nat × Nat      -- (id, cap, reserved length)

def shapeB (b : ABucket) : BShape := (b.id, b.cap, b.len)
def shapeL (b : Bucket) : BShape := (b.id, b.cap, b.data.length)

/-- The copy does not change a shape: the shapes after a call are those after its reservation. -/
theorem stored_shape (cs : List ABucket) (b : ABucket) (x : Bytes) :
    (stored cs b x).map shapeB = (updB cs b.id (reserveB b.len x.length)).map shapeB := by
  rw [stored_eq]
  exact map_updB fun _ => rfl

/-- First fit chooses the same block in both models, and leaves the same shapes. -/
theorem fit_sim (x : Bytes) : ∀ {cs : List ABucket} {ls : List Bucket}, cs.map shapeB = ls.map shapeL → (cs.map (·.id)).Nodup →
    match cs.find? (fits x.length) with
    | some b => ∃ ls', LArena.fitIn x ls = some (ls', ⟨b.id, b.len, x.length⟩) ∧ (stored cs b x).map shapeB = ls'.map shapeL
    | none => LArena.fitIn x ls = none
  | [], [], _, _ => rfl
  | c :: cs, l :: ls, h, hnd => by
    obtain ⟨hc, hrest⟩ := List.cons.inj h
    obtain ⟨hid, hcl⟩ := Prod.mk.inj hc
    obtain ⟨hcap, hlen⟩ := Prod.mk.inj hcl
    obtain ⟨hfresh, hnd⟩ := List.nodup_cons.mp hnd
    have hroom : l.data.length + x.length ≤ l.cap ↔ c.len + x.length ≤ c.cap := by rw [← hlen, ← hcap]
    rw [LArena.fitIn]
    by_cases hf : c.len + x.length ≤ c.cap
    · -- `c` is chosen, and is the only block of its identity
      rw [List.find?_cons_of_pos (by simp [fits, hf]), if_pos (hroom.mpr hf)]
      refine ⟨_, by rw [← hid, ← hlen], ?_⟩
      rw [stored_shape, updB_cons, if_pos rfl, updB_of_forall_ne fun k hk e => hfresh (List.mem_map.mpr ⟨k, hk, e⟩),
        List.map_cons, List.map_cons, hrest]
      simp [shapeB, shapeL, reserveB, hid, hcap, hlen]
    · rw [List.find?_cons_of_neg (by simp [fits, hf]), if_neg (mt hroom.mp hf)]
      have ih := fit_sim x hrest hnd
      cases hfind : cs.find? (fits x.length) with
      | none => rw [hfind] at ih; rw [ih]
      | some b =>
        rw [hfind] at ih
        obtain ⟨ls', h1, h2⟩ := ih
        have hne : c.id ≠ b.id := fun e => hfresh (List.mem_map.mpr ⟨b, List.mem_of_find?_eq_some hfind, e.symm⟩)
        rw [h1]
        refine ⟨_, rfl, ?_⟩
        rw [stored_shape, updB_cons, if_neg hne, List.map_cons, ← stored_shape, h2, List.map_cons, hc]

structure Rel (s : AS) (a : LArena) : Prop where
  blocks : s.buckets.map shapeB = a.buckets.map shapeL
  cap : s.bucketCap = a.bucketCap
  usage : s.usage = a.usage
  max : s.max = a.max
  nextId : s.nextId = a.nextId

/-- How the sequential model's reference shows up in the machine's log. -/
def answerOf : StrRef → ARes
  | .arena loc => .ok loc.bid loc.off
  | .empty => .empty
  | _ => .err

/-- `Rel` along `Matches`: a growth of the machine that matches an outcome of the decision tree leads to what
`LArena.applyOutcome` makes of that outcome. -/
theorem Rel.grow {s s' : AS} {a : LArena} (hR : Rel s a) {rest : List Bytes} {x : Bytes} {o : Outcome}
    (hm : Matches s s' rest x (some o)) (hmax : s'.max = s.max) :
    s'.ts = [{ pc := .idle, todo := rest }] ∧
    match a.applyOutcome x o with
    | .ok (a', ref) => Rel s' a' ∧ s'.log = (0, x, answerOf ref) :: s.log
    | .err _ => Rel s' a ∧ s'.log = (0, x, .err) :: s.log
    | _ => False := by
  cases o with
  | err =>
    obtain ⟨hu, hb, hc, hn, hl, hts⟩ := hm
    exact ⟨hts, ⟨hb ▸ hR.blocks, hc ▸ hR.cap, hu ▸ hR.usage, hmax ▸ hR.max, hn ▸ hR.nextId⟩, hl⟩
  | grow claim size newCap place =>
    obtain ⟨hsize, rfl, hu, hb, hc, hn, hl, hts⟩ := hm
    simp only [LArena.applyOutcome, hsize, ↓reduceIte]
    exact ⟨hts, ⟨by rw [hb, List.map_cons, hR.blocks, hR.nextId]; rfl, by rw [hc, hR.cap], by rw [hu, hR.usage],
      hmax ▸ hR.max, by rw [hn, hR.nextId]⟩, by rw [hl, hR.nextId]; rfl⟩

theorem solo_is_sequential (s : AS) (a : LArena) (x : Bytes) (rest : List Bytes) (hR : Rel s a)
    (hnd : (s.buckets.map (·.id)).Nodup) (ht : s.ts = [{ pc := .idle, todo := x :: rest }]) :
    ∃ sched : List (Nat × Bool), (∀ e ∈ sched, e = (0, false)) ∧
      (run s sched).ts = [{ pc := .idle, todo := rest }] ∧
      match a.store x with
      | .ok (a', ref) => Rel (run s sched) a' ∧ (run s sched).log = (0, x, answerOf ref) :: s.log
      | .err _ => Rel (run s sched) a ∧ (run s sched).log = (0, x, .err) :: s.log
      | _ => False := by
  obtain ⟨sched, hall, hres⟩ := solo_store s x rest hnd ht
  refine ⟨sched, hall, ?_⟩
  unfold LArena.store
  split at hres
  next hx =>
    rw [hres, if_pos hx]
    exact ⟨rfl, { hR with }, rfl⟩
  next hx =>
    rw [if_neg hx]
    have hfit := fit_sim x hR.blocks hnd
    cases hfind : s.buckets.find? (fits x.length) with
    | some b =>
      rw [hfind] at hres hfit
      obtain ⟨ls', hfit, hsh⟩ := hfit
      rw [hres, hfit]
      exact ⟨rfl, { hR with blocks := hsh }, rfl⟩
    | none =>
      rw [hfind] at hres hfit
      have henv : envOf s x = a.env x := by unfold envOf LArena.env; rw [hR.cap, hR.usage, hR.max]
      rw [hfit, ← larena_grow_is_spec, ← henv]
      exact hR.grow hres (run_limits sched s).1

end Lasso.CA
