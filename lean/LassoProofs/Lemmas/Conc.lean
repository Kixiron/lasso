import LassoModel.Conc
import LassoProofs.Lemmas.Threads
import LassoProofs.Lemmas.Assoc
/-
  Invariant of the interleaving semantics of `ThreadedRodeo` and its preservation by every step of
  every thread — for any number of threads, any programs, any shard function, any key capacity.

  The invariant reads a thread through three projections of its program counter (`holds`, `owns`, `pend`) and
  is three protocols side by side (`inv_iff`): the lock discipline, the allocation of key indices, the publication
  of a pair into the two maps.  A step moves at most two of the projections; `Step` lists the kinds of step once,
  and the invariant, monotonicity and the log property are each a case analysis over it.
-/
namespace Lasso.Conc
open Lasso

/-- String whose shard write-lock the thread holds (it has seen that string vacant under the lock). -/
def holds : PC → Option Bytes
  | .locked x _ => some x
  | .haveKey x _ => some x
  | .inserted x _ => some x
  | _ => none

/-- Index fetched from the counter, not yet in the key->string map. -/
def owns : PC → Option Nat
  | .haveKey _ k => some k
  | _ => none

/-- Pair already in the key->string map, not yet in the string->key map. -/
def pend : PC → Option (Nat × Bytes)
  | .inserted x k => some (k, x)
  | _ => none

structure Inv (sh : Bytes → Nat) (N : Nat) (s : CS) : Prop where
  mapStr : ∀ (x : Bytes) (k : Nat), (x, k) ∈ s.map → (k, x) ∈ s.strs
  mapNd : (s.map.map (·.1)).Nodup
  strNd : (s.strs.map (·.1)).Nodup
  strLt : ∀ (k : Nat) (x : Bytes), (k, x) ∈ s.strs → k < s.ctr ∧ k < N
  strSrc : ∀ (k : Nat) (x : Bytes), (k, x) ∈ s.strs →
    (x, k) ∈ s.map ∨ ∃ (t : Nat) (th : Thread), s.ts[t]? = some th ∧ pend th.pc = some (k, x)
  lockOf : ∀ (t : Nat) (th : Thread) (x : Bytes), s.ts[t]? = some th → holds th.pc = some x → (sh x, t) ∈ s.locks
  lockBy : ∀ (i t : Nat), (i, t) ∈ s.locks → ∃ (th : Thread) (x : Bytes), s.ts[t]? = some th ∧ holds th.pc = some x ∧ sh x = i
  lockNd : (s.locks.map (·.1)).Nodup
  vacant : ∀ (t : Nat) (th : Thread) (x : Bytes), s.ts[t]? = some th → holds th.pc = some x → ∀ k : Nat, (x, k) ∉ s.map
  keyOwn : ∀ (t : Nat) (th : Thread) (k : Nat), s.ts[t]? = some th → owns th.pc = some k →
    k < s.ctr ∧ k < N ∧ ∀ y : Bytes, (k, y) ∉ s.strs
  keyDis : ∀ (t u : Nat) (p q : Thread) (k : Nat), t ≠ u → s.ts[t]? = some p → s.ts[u]? = some q →
    owns p.pc = some k → owns q.pc = some k → False
  insStr : ∀ (t : Nat) (th : Thread) (e : Nat × Bytes), s.ts[t]? = some th → pend th.pc = some e → e ∈ s.strs
  dense : ∀ k : Nat, k < s.ctr → k < N →
    (∃ x : Bytes, (k, x) ∈ s.strs) ∨ ∃ (t : Nat) (th : Thread), s.ts[t]? = some th ∧ owns th.pc = some k

/-! ### Lookups and updates

`mapGet m x`, `strGet l k`, `lockOwner locks i`, `strInsert k x l` unfold to `assocGet` / `assocInsert`
(`Lemmas/Assoc.lean`), whose lemmas apply to them as they stand (to rewrite with one, first `show` the goal in
terms of `assocGet`). -/

theorem mem_unlock {locks : List (Nat × Nat)} {i : Nat} {l : Nat × Nat} : l ∈ unlock locks i ↔ l ∈ locks ∧ l.1 ≠ i := by
  unfold unlock
  simp [List.mem_filter]

theorem unlock_nodup {locks : List (Nat × Nat)} {i : Nat} (h : (locks.map (·.1)).Nodup) :
    ((unlock locks i).map (·.1)).Nodup :=
  (List.Sublist.map _ List.filter_sublist).nodup h

/-! ### The three protocols -/

/-- Lock discipline.  `H u = some x`: thread `u` holds the write lock of `x`'s shard and saw `x` vacant under it. -/
structure LockInv (sh : Bytes → Nat) (locks : List (Nat × Nat)) (map : List (Bytes × Nat)) (H : Nat → Option Bytes) : Prop where
  lockOf : ∀ t x, H t = some x → (sh x, t) ∈ locks
  lockBy : ∀ i t, (i, t) ∈ locks → ∃ x, H t = some x ∧ sh x = i
  lockNd : (locks.map (·.1)).Nodup
  vacant : ∀ t x, H t = some x → ∀ k, (x, k) ∉ map

/-- Key allocation.  `O u = some k`: thread `u` fetched index `k` from the counter and has not inserted it yet. -/
structure KeyInv (N ctr : Nat) (strs : List (Nat × Bytes)) (O : Nat → Option Nat) : Prop where
  strLt : ∀ k x, (k, x) ∈ strs → k < ctr ∧ k < N
  keyOwn : ∀ t k, O t = some k → k < ctr ∧ k < N ∧ ∀ y, (k, y) ∉ strs
  keyDis : ∀ t u k, t ≠ u → O t = some k → O u = some k → False
  dense : ∀ k, k < ctr → k < N → (∃ x, (k, x) ∈ strs) ∨ ∃ t, O t = some k

/-- Publication.  `P u = some (k, x)`: thread `u` has put `(k, x)` into key->string and not yet `(x, k)` into string->key. -/
structure PubInv (map : List (Bytes × Nat)) (strs : List (Nat × Bytes)) (P : Nat → Option (Nat × Bytes)) : Prop where
  mapStr : ∀ x k, (x, k) ∈ map → (k, x) ∈ strs
  mapNd : (map.map (·.1)).Nodup
  strNd : (strs.map (·.1)).Nodup
  strSrc : ∀ k x, (k, x) ∈ strs → (x, k) ∈ map ∨ ∃ t, P t = some (k, x)
  insStr : ∀ t e, P t = some e → e ∈ strs

section
variable {sh : Bytes → Nat} {N t : Nat} {x : Bytes} {k ctr : Nat}
  {locks : List (Nat × Nat)} {map map' : List (Bytes × Nat)} {strs : List (Nat × Bytes)}
  {H H' : Nat → Option Bytes} {O O' : Nat → Option Nat} {P P' : Nat → Option (Nat × Bytes)}

theorem LockInv.acquire (h : LockInv sh locks map H) (hH : H t = none) (hu : Upd H H' t (some x))
    (hfree : ∀ u, (sh x, u) ∉ locks) (hvac : ∀ k, (x, k) ∉ map) : LockInv sh ((sh x, t) :: locks) map H' where
  lockOf u y hy := by
    rcases hu.cases hy with ⟨rfl, e⟩ | ⟨_, hy⟩
    · cases e; exact List.mem_cons_self
    · exact List.mem_cons_of_mem _ (h.lockOf u y hy)
  lockBy i u hm := by
    rcases List.mem_cons.mp hm with e | hm
    · cases e; exact ⟨x, hu.self, rfl⟩
    · obtain ⟨y, hy, hi⟩ := h.lockBy i u hm
      exact ⟨y, hu.keep (fun e => by rw [e, hH] at hy; cases hy) hy, hi⟩
  lockNd := by
    simp only [List.map_cons, List.nodup_cons, List.mem_map]
    exact ⟨fun ⟨l, hl, e⟩ => hfree l.2 (e ▸ hl), h.lockNd⟩
  vacant u y hy := by
    rcases hu.cases hy with ⟨rfl, e⟩ | ⟨_, hy⟩
    · cases e; exact hvac
    · exact h.vacant u y hy

/-- The lock is released; in the meantime only `x` itself may have been published. -/
theorem LockInv.release (h : LockInv sh locks map H) (hH : H t = some x) (hu : Upd H H' t none)
    (hmap : ∀ e ∈ map', e ∈ map ∨ e.1 = x) : LockInv sh (unlock locks (sh x)) map' H' := by
  -- `t` alone has the shard of `x`, so what the others hold lies in other shards
  have hown : ∀ u, (sh x, u) ∈ locks → u = t := fun u hm => assoc_unique h.lockNd hm (h.lockOf t x hH)
  have hold : ∀ u y, H' u = some y → H u = some y ∧ sh y ≠ sh x := by
    intro u y hy
    rcases hu.cases hy with ⟨_, e⟩ | ⟨hut, hy⟩
    · cases e
    · exact ⟨hy, fun e => hut (hown u (e ▸ h.lockOf u y hy))⟩
  refine ⟨?_, ?_, unlock_nodup h.lockNd, ?_⟩
  · intro u y hy
    exact mem_unlock.mpr ⟨h.lockOf u y (hold u y hy).1, (hold u y hy).2⟩
  · intro i u hm
    obtain ⟨hm, hi⟩ := mem_unlock.mp hm
    obtain ⟨y, hy, e⟩ := h.lockBy i u hm
    exact ⟨y, hu.keep (fun e' => by rw [e', hH] at hy; cases hy; exact hi e.symm) hy, e⟩
  · intro u y hy k' hm
    rcases hmap _ hm with hm | e
    · exact h.vacant u y (hold u y hy).1 k' hm
    · exact (hold u y hy).2 (congrArg sh e)

theorem KeyInv.fetch (h : KeyInv N ctr strs O) (hO : O t = none) (hN : ctr < N) (hu : Upd O O' t (some ctr)) :
    KeyInv N (ctr + 1) strs O' := by
  have hown : ∀ u k, O' u = some k → (u = t ∧ k = ctr) ∨ (u ≠ t ∧ O u = some k ∧ k < ctr) := by
    intro u k hk
    rcases hu.cases hk with ⟨hut, e⟩ | ⟨hut, hk⟩
    · cases e; exact Or.inl ⟨hut, rfl⟩
    · exact Or.inr ⟨hut, hk, (h.keyOwn u k hk).1⟩
  refine ⟨fun k x hm => ⟨Nat.lt_succ_of_lt (h.strLt k x hm).1, (h.strLt k x hm).2⟩, ?_, ?_, ?_⟩
  · intro u k hk
    rcases hown u k hk with ⟨_, rfl⟩ | ⟨_, hk, _⟩
    · exact ⟨Nat.lt_succ_self _, hN, fun y hm => Nat.lt_irrefl _ (h.strLt _ y hm).1⟩
    · exact ⟨Nat.lt_succ_of_lt (h.keyOwn u k hk).1, (h.keyOwn u k hk).2⟩
  · intro u w k huw hk hk'
    rcases hown u k hk with ⟨rfl, e⟩ | ⟨_, hk, hlt⟩ <;> rcases hown w k hk' with ⟨rfl, e'⟩ | ⟨_, hk', hlt'⟩
    · exact huw rfl
    · omega
    · omega
    · exact h.keyDis u w k huw hk hk'
  · intro k hk hkN
    rcases Nat.lt_succ_iff_lt_or_eq.mp hk with hk | rfl
    · rcases h.dense k hk hkN with hx | ⟨u, hk'⟩
      · exact Or.inl hx
      · exact Or.inr ⟨u, hu.keep (fun e => by rw [e, hO] at hk'; cases hk') hk'⟩
    · exact Or.inr ⟨t, hu.self⟩

/-- Past the capacity the counter still moves, and no index is handed out. -/
theorem KeyInv.overflow (h : KeyInv N ctr strs O) (hN : N ≤ ctr) : KeyInv N (ctr + 1) strs O where
  strLt k x hm := ⟨Nat.lt_succ_of_lt (h.strLt k x hm).1, (h.strLt k x hm).2⟩
  keyOwn u k hk := ⟨Nat.lt_succ_of_lt (h.keyOwn u k hk).1, (h.keyOwn u k hk).2⟩
  keyDis := h.keyDis
  dense k _ hkN := h.dense k (Nat.lt_of_lt_of_le hkN hN) hkN

theorem KeyInv.insert (h : KeyInv N ctr strs O) (hO : O t = some k) (hu : Upd O O' t none) :
    KeyInv N ctr (strInsert k x strs) O' := by
  have hold : ∀ u k', O' u = some k' → u ≠ t ∧ O u = some k' := by
    intro u k' hk
    rcases hu.cases hk with ⟨_, e⟩ | h
    · cases e
    · exact h
  refine ⟨?_, ?_, ?_, ?_⟩
  · intro k' y hm
    rcases mem_assocInsert.mp hm with e | ⟨hm, _⟩
    · cases e; exact ⟨(h.keyOwn t k hO).1, (h.keyOwn t k hO).2.1⟩
    · exact h.strLt k' y hm
  · intro u k' hk
    obtain ⟨hut, hk⟩ := hold u k' hk
    refine ⟨(h.keyOwn u k' hk).1, (h.keyOwn u k' hk).2.1, fun y hm => ?_⟩
    rcases mem_assocInsert.mp hm with e | ⟨hm, _⟩
    · cases e; exact h.keyDis u t k hut hk hO
    · exact (h.keyOwn u k' hk).2.2 y hm
  · intro u w k' huw hk hk'
    exact h.keyDis u w k' huw (hold u k' hk).2 (hold w k' hk').2
  · intro k' hk hkN
    by_cases e : k' = k
    · exact Or.inl ⟨x, mem_assocInsert.mpr (Or.inl (by rw [e]))⟩
    · rcases h.dense k' hk hkN with ⟨y, hm⟩ | ⟨u, hk'⟩
      · exact Or.inl ⟨y, mem_assocInsert.mpr (Or.inr ⟨hm, e⟩)⟩
      · exact Or.inr ⟨u, hu.keep (fun e' => by rw [e', hO] at hk'; cases hk'; exact e rfl) hk'⟩

theorem PubInv.insert (h : PubInv map strs P) (hP : P t = none) (hu : Upd P P' t (some (k, x)))
    (hfresh : ∀ y, (k, y) ∉ strs) : PubInv map (strInsert k x strs) P' := by
  have hkeep : ∀ e ∈ strs, e ∈ strInsert k x strs := fun e hm =>
    mem_assocInsert.mpr (Or.inr ⟨hm, fun hk => hfresh e.2 (hk ▸ hm)⟩)
  refine ⟨fun y k' hm => hkeep _ (h.mapStr y k' hm), h.mapNd, assocInsert_nodup h.strNd, ?_, ?_⟩
  · intro k' y hm
    rcases mem_assocInsert.mp hm with e | ⟨hm, _⟩
    · exact Or.inr ⟨t, e ▸ hu.self⟩
    · rcases h.strSrc k' y hm with hm | ⟨u, hp⟩
      · exact Or.inl hm
      · exact Or.inr ⟨u, hu.keep (fun e => by rw [e, hP] at hp; cases hp) hp⟩
  · intro u e he
    rcases hu.cases he with ⟨_, e'⟩ | ⟨_, he⟩
    · cases e'; exact mem_assocInsert.mpr (Or.inl rfl)
    · exact hkeep e (h.insStr u e he)

theorem PubInv.publish (h : PubInv map strs P) (hP : P t = some (k, x)) (hu : Upd P P' t none)
    (hvac : ∀ k', (x, k') ∉ map) : PubInv (map ++ [(x, k)]) strs P' := by
  refine ⟨?_, ?_, h.strNd, ?_, ?_⟩
  · intro y k' hm
    rcases List.mem_append.mp hm with hm | hm
    · exact h.mapStr y k' hm
    · cases List.mem_singleton.mp hm; exact h.insStr t _ hP
  · simp only [List.map_append, List.map_cons, List.map_nil, List.nodup_append, List.mem_map, List.mem_singleton]
    exact ⟨h.mapNd, List.pairwise_singleton _ _, fun _ ⟨e, hm, he⟩ _ hb hab => hvac e.2 (by rw [← hb, ← hab, ← he]; exact hm)⟩
  · intro k' y hm
    rcases h.strSrc k' y hm with hm | ⟨u, hp⟩
    · exact Or.inl (List.mem_append_left _ hm)
    · by_cases hut : u = t
      · rw [hut, hP] at hp; cases hp; exact Or.inl (List.mem_append_right _ (List.mem_singleton.mpr rfl))
      · exact Or.inr ⟨u, hu.keep hut hp⟩
  · intro u e he
    rcases hu.cases he with ⟨_, e'⟩ | ⟨_, he⟩
    · cases e'
    · exact h.insStr u e he
end

/-- The invariant is three protocols side by side, each reading the threads through one projection. -/
theorem inv_iff {sh : Bytes → Nat} {N : Nat} {s : CS} :
    Inv sh N s ↔ LockInv sh s.locks s.map (view (holds ·.pc) s.ts) ∧ KeyInv N s.ctr s.strs (view (owns ·.pc) s.ts) ∧
      PubInv s.map s.strs (view (pend ·.pc) s.ts) := by
  constructor
  · intro h
    refine ⟨⟨view_forall.mpr h.lockOf, ?_, h.lockNd, view_forall.mpr h.vacant⟩,
      ⟨h.strLt, view_forall.mpr h.keyOwn, ?_, fun k hk hkN => (h.dense k hk hkN).imp_right view_exists.mpr⟩,
      ⟨h.mapStr, h.mapNd, h.strNd, fun k x hm => (h.strSrc k x hm).imp_right view_exists.mpr, view_forall.mpr h.insStr⟩⟩
    · exact fun i t hm => let ⟨th, x, ht, hx, hi⟩ := h.lockBy i t hm; ⟨x, view_eq_some.mpr ⟨th, ht, hx⟩, hi⟩
    · exact fun t u k htu hv hv' => let ⟨p, hp, hk⟩ := view_eq_some.mp hv; let ⟨q, hq, hk'⟩ := view_eq_some.mp hv'
        h.keyDis t u p q k htu hp hq hk hk'
  · rintro ⟨hl, hk, hp⟩
    refine ⟨hp.mapStr, hp.mapNd, hp.strNd, hk.strLt, fun k x hm => (hp.strSrc k x hm).imp_right view_exists.mp,
      view_forall.mp hl.lockOf, ?_, hl.lockNd, view_forall.mp hl.vacant, view_forall.mp hk.keyOwn, ?_, view_forall.mp hp.insStr,
      fun k hk' hkN => (hk.dense k hk' hkN).imp_right view_exists.mp⟩
    · exact fun i t hm => let ⟨x, hv, hi⟩ := hl.lockBy i t hm; let ⟨th, ht, hx⟩ := view_eq_some.mp hv; ⟨th, x, ht, hx, hi⟩
    · exact fun t u p q k htu hp hq ho ho' => hk.keyDis t u k htu (view_eq_some.mpr ⟨p, hp, ho⟩) (view_eq_some.mpr ⟨q, hq, ho'⟩)

theorem init_inv (sh : Bytes → Nat) (N cap max : Nat) (programs : List (List Call)) : Inv sh N (init cap max programs) := by
  -- every thread is idle, so all three views are empty, and so are the maps and the lock list: each clause is void
  have hv : ∀ {β} (π : PC → Option β), π .idle = none → view (π ·.pc) (init cap max programs).ts = fun _ => none := by
    intro β π h
    funext u
    simp only [view, init, List.getElem?_map]
    cases programs[u]? <;> simp [h]
  rw [inv_iff, hv holds rfl, hv owns rfl, hv pend rfl]
  exact ⟨⟨nofun, nofun, .nil, nofun⟩, ⟨nofun, nofun, nofun, nofun⟩, ⟨nofun, .nil, .nil, nofun, nofun⟩⟩

/-! ### The kinds of step -/

/-- What a logged result says about the shared maps at the moment it is logged (and, by
monotonicity, ever after). -/
def entryOk (s : CS) (e : Nat × Call × Res) : Prop :=
  match e.2.1, e.2.2 with
  | .intern x, .key k => (x, k) ∈ s.map
  | .internStatic x, .key k => (x, k) ∈ s.map
  | .get x, .optKey (some k) => (x, k) ∈ s.map
  | .tryResolve k, .optStr (some y) => (k, y) ∈ s.strs
  | _, _ => True

def LogOk (s : CS) : Prop := ∀ e ∈ s.log, entryOk s e

theorem entryOk_mono {s s' : CS} (hm : s.map ⊆ s'.map) (hst : s.strs ⊆ s'.strs) (e : Nat × Call × Res)
    (h : entryOk s e) : entryOk s' e := by
  unfold entryOk at *
  split <;> simp_all [List.subset_def]

/-- The kinds of step: what thread `t`, at program counter `pc` with `todo` left, does to the state.  (`answer`: a
call completed from outside the locked region with a result read off the maps; `miss`: the lock-free lookup found
nothing.) -/
inductive Step (sh : Bytes → Nat) (N : Nat) (s : CS) (t : Nat) (todo : List Call) : PC → CS → Prop
  | answer (pc : PC) (c : Call) (r : Res) (rest : List Call) : holds pc = none → owns pc = none → pend pc = none →
      entryOk s (t, c, r) → Step sh N s t todo pc (finish s t ⟨.idle, rest⟩ c r)
  | miss (x : Bytes) (st : Bool) (rest : List Call) : Step sh N s t todo .idle (setThread s t ⟨.wantLock x st, rest⟩)
  | lock (x : Bytes) (st : Bool) : (∀ u, (sh x, u) ∉ s.locks) → (∀ k, (x, k) ∉ s.map) →
      Step sh N s t todo (.wantLock x st) { s with locks := (sh x, t) :: s.locks, ts := s.ts.set t ⟨.locked x (!st), todo⟩ }
  | stored (x : Bytes) (a' : LArena) :
      Step sh N s t todo (.locked x true) { s with arena := a', ts := s.ts.set t ⟨.locked x false, todo⟩ }
  | noMemory (x : Bytes) (b : Bool) (e : Err) (ctr : Nat) : ctr = s.ctr ∨ N ≤ s.ctr ∧ ctr = s.ctr + 1 →
      Step sh N s t todo (.locked x b)
        { finish { s with ctr := ctr } t ⟨.idle, todo⟩ (.intern x) (.err e) with locks := unlock s.locks (sh x) }
  | fetch (x : Bytes) : s.ctr < N →
      Step sh N s t todo (.locked x false) { s with ctr := s.ctr + 1, ts := s.ts.set t ⟨.haveKey x s.ctr, todo⟩ }
  | insert (x : Bytes) (k : Nat) :
      Step sh N s t todo (.haveKey x k) { s with strs := strInsert k x s.strs, ts := s.ts.set t ⟨.inserted x k, todo⟩ }
  | publish (x : Bytes) (k : Nat) :
      Step sh N s t todo (.inserted x k)
        { finish s t ⟨.idle, todo⟩ (.intern x) (.key k) with map := s.map ++ [(x, k)], locks := unlock s.locks (sh x) }

section
variable {sh : Bytes → Nat} {N : Nat} {s s' : CS} {t : Nat} {pc : PC} {todo : List Call}

theorem entryOk_key {x : Bytes} {st : Bool} {k : Nat} (h : mapGet s.map x = some k) :
    entryOk s (t, callOf x st, .key k) := by
  cases st <;> exact mem_of_assocGet h

theorem step_cases (hs : step sh N s t = some s') :
    ∃ pc todo, s.ts[t]? = some ⟨pc, todo⟩ ∧ Step sh N s t todo pc s' := by
  unfold step at hs
  cases ht : s.ts[t]? with
  | none => simp [ht] at hs
  | some th =>
    obtain ⟨pc, todo⟩ := th
    refine ⟨pc, todo, rfl, ?_⟩
    simp only [ht] at hs
    cases pc with
    | idle =>
      cases todo with
      | nil => simp at hs
      | cons c rest =>
        cases c with
        | get x =>
          simp only at hs
          split at hs
          · simp at hs
          · injection hs with hs; subst hs
            refine .answer _ _ _ _ rfl rfl rfl ?_
            cases hg : mapGet s.map x with
            | none => trivial
            | some k => exact mem_of_assocGet hg
        | tryResolve k =>
          injection hs with hs; subst hs
          refine .answer _ _ _ _ rfl rfl rfl ?_
          cases hg : strGet s.strs k with
          | none => trivial
          | some y => exact mem_of_assocGet hg
        | containsKey k => injection hs with hs; subst hs; exact .answer _ _ _ _ rfl rfl rfl trivial
        | len => injection hs with hs; subst hs; exact .answer _ _ _ _ rfl rfl rfl trivial
        | intern x =>
          simp only at hs
          split at hs
          · simp at hs
          · split at hs
            next k hg => injection hs with hs; subst hs; exact .answer _ _ _ _ rfl rfl rfl (entryOk_key (st := false) hg)
            · injection hs with hs; subst hs; exact .miss x false rest
        | internStatic x =>
          simp only at hs
          split at hs
          · simp at hs
          · split at hs
            next k hg => injection hs with hs; subst hs; exact .answer _ _ _ _ rfl rfl rfl (entryOk_key (st := true) hg)
            · injection hs with hs; subst hs; exact .miss x true rest
    | wantLock x st =>
      simp only at hs
      split at hs
      · simp at hs
      next hfr =>
        split at hs
        next k hg => injection hs with hs; subst hs; exact .answer _ _ _ _ rfl rfl rfl (entryOk_key hg)
        next hvac => injection hs with hs; subst hs; exact .lock x st (assocGet_eq_none.mp (Option.not_isSome_iff_eq_none.mp hfr)) (assocGet_eq_none.mp hvac)
    | locked x b =>
      cases b with
      | true =>
        simp only at hs
        split at hs
        · injection hs with hs; subst hs; exact .stored x _
        · injection hs with hs; subst hs; exact .noMemory x true _ _ (Or.inl rfl)
        · simp at hs
      | false =>
        simp only [keyOfIndex] at hs
        split at hs
        next hk => injection hs with hs; subst hs; exact .fetch x (by split at hk <;> simp_all)
        next hk =>
          injection hs with hs; subst hs
          exact .noMemory x false _ _ (Or.inr ⟨by split at hk <;> simp_all <;> omega, rfl⟩)
    | haveKey x k => injection hs with hs; subst hs; exact .insert x k
    | inserted x k => injection hs with hs; subst hs; exact .publish x k

theorem Step.inv (h : Inv sh N s) (ht : s.ts[t]? = some ⟨pc, todo⟩) (hk : Step sh N s t todo pc s') : Inv sh N s' := by
  obtain ⟨hl, hkey, hp⟩ := inv_iff.mp h
  -- `view_frame`: a protocol whose projection of `t` and whose share of the state stay put is not concerned
  cases hk with
  | answer pc c r rest f1 f2 f3 =>
    exact inv_iff.mpr ⟨view_frame ht f1.symm hl, view_frame ht f2.symm hkey, view_frame ht f3.symm hp⟩
  | miss | stored => exact inv_iff.mpr ⟨view_frame ht rfl hl, view_frame ht rfl hkey, view_frame ht rfl hp⟩
  | lock x st hfree hvac =>
    exact inv_iff.mpr ⟨hl.acquire (view_of_get ht) (view_set ht) hfree hvac, view_frame ht rfl hkey, view_frame ht rfl hp⟩
  | noMemory x b e ctr hc =>
    refine inv_iff.mpr ⟨hl.release (view_of_get ht) (view_set ht) fun _ => Or.inl, ?_, view_frame ht rfl hp⟩
    rcases hc with rfl | ⟨hN, rfl⟩
    · exact view_frame ht rfl hkey
    · exact KeyInv.overflow (by exact view_frame ht rfl hkey) hN
  | fetch x hN =>
    exact inv_iff.mpr ⟨view_frame ht rfl hl, hkey.fetch (view_of_get ht) hN (view_set ht), view_frame ht rfl hp⟩
  | insert x k =>
    have hO : view (owns ·.pc) s.ts t = some k := view_of_get ht
    exact inv_iff.mpr ⟨view_frame ht rfl hl, hkey.insert hO (view_set ht),
      hp.insert (view_of_get ht) (view_set ht) (hkey.keyOwn t k hO).2.2⟩
  | publish x k =>
    have hH : view (holds ·.pc) s.ts t = some x := view_of_get ht
    refine inv_iff.mpr ⟨hl.release hH (view_set ht) fun e hm => ?_, view_frame ht rfl hkey,
      hp.publish (view_of_get ht) (view_set ht) (hl.vacant t x hH)⟩
    rcases List.mem_append.mp hm with hm | hm
    · exact Or.inl hm
    · exact Or.inr (by rw [List.mem_singleton.mp hm])

/-- Every step of every thread preserves the invariant. -/
theorem step_inv {sh : Bytes → Nat} {N : Nat} {s s' : CS} (h : Inv sh N s) (t : Nat) (hs : step sh N s t = some s') :
    Inv sh N s' :=
  let ⟨_, _, ht, hk⟩ := step_cases hs
  hk.inv h ht

/-! ### Monotonicity: published associations are never removed or changed -/

theorem Step.mono (h : Inv sh N s) (ht : s.ts[t]? = some ⟨pc, todo⟩) (hk : Step sh N s t todo pc s') :
    s.map ⊆ s'.map ∧ s.strs ⊆ s'.strs ∧ s.log ⊆ s'.log := by
  cases hk with
  | answer | noMemory => exact ⟨.refl _, .refl _, List.subset_cons_self ..⟩
  | miss | lock | stored | fetch => exact ⟨.refl _, .refl _, .refl _⟩
  | insert x k =>
    -- `insert` overwrites the entry of key `k`, and there is none: `t` owns `k`
    have hfresh := (h.keyOwn t _ k ht rfl).2.2
    exact ⟨.refl _, fun e he => mem_assocInsert.mpr (Or.inr ⟨he, fun hk => hfresh e.2 (hk ▸ he)⟩), .refl _⟩
  | publish => exact ⟨List.subset_append_left .., .refl _, List.subset_cons_self ..⟩

theorem step_logOk (h : Inv sh N s) (hl : LogOk s) (t : Nat) (hs : step sh N s t = some s') : LogOk s' := by
  obtain ⟨pc, todo, ht, hk⟩ := step_cases hs
  obtain ⟨m1, m2, _⟩ := hk.mono h ht
  have hold : ∀ e ∈ s.log, entryOk s' e := fun e he => entryOk_mono m1 m2 e (hl e he)
  -- a step that logs `e` makes `e` true in the state it leaves
  have hcons : ∀ e, s'.log = e :: s.log → entryOk s' e → LogOk s' := fun e hlog he e' he' => by
    rw [hlog] at he'
    rcases List.mem_cons.mp he' with rfl | he'
    · exact he
    · exact hold e' he'
  cases hk with
  | answer pc c r rest _ _ _ he => exact hcons _ rfl he
  | miss | lock | stored | fetch | insert => exact hold
  | noMemory => exact hcons _ rfl trivial
  | publish x k => exact hcons _ rfl (List.mem_append_right _ (List.mem_singleton.mpr rfl))

end

/-! ### Along a schedule -/

theorem run_append (sh : Bytes → Nat) (N : Nat) (s : CS) (a b : List Nat) :
    run sh N s (a ++ b) = run sh N (run sh N s a) b := by
  induction a generalizing s with
  | nil => rfl
  | cons t rest ih => simp only [List.cons_append, run]; split <;> exact ih _

theorem run_induct {sh : Bytes → Nat} {N : Nat} {P : CS → Prop}
    (hstep : ∀ {s s' : CS} (t : Nat), P s → step sh N s t = some s' → P s') (sched : List Nat) :
    ∀ {s : CS}, P s → P (run sh N s sched) := by
  induction sched with
  | nil => exact id
  | cons t rest ih =>
    intro s h
    unfold run
    cases hs : step sh N s t with
    | none => exact ih h
    | some s' => exact ih (hstep t h hs)

theorem run_inv {sh : Bytes → Nat} {N : Nat} (sched : List Nat) : ∀ {s : CS}, Inv sh N s → Inv sh N (run sh N s sched) :=
  run_induct (fun t h hs => step_inv h t hs) sched

theorem run_mono {sh : Bytes → Nat} {N : Nat} (sched : List Nat) {s : CS} (h : Inv sh N s) :
    s.map ⊆ (run sh N s sched).map ∧ s.strs ⊆ (run sh N s sched).strs ∧ s.log ⊆ (run sh N s sched).log :=
  (run_induct (P := fun s' => Inv sh N s' ∧ s.map ⊆ s'.map ∧ s.strs ⊆ s'.strs ∧ s.log ⊆ s'.log)
    (fun t ⟨hi, a1, a2, a3⟩ hs =>
      let ⟨_, _, ht, hk⟩ := step_cases hs
      let ⟨b1, b2, b3⟩ := hk.mono hi ht
      ⟨step_inv hi t hs, a1.trans b1, a2.trans b2, a3.trans b3⟩)
    sched ⟨h, .refl _, .refl _, .refl _⟩).2

theorem run_logOk {sh : Bytes → Nat} {N : Nat} (sched : List Nat) {s : CS} (h : Inv sh N s) (hl : LogOk s) :
    LogOk (run sh N s sched) :=
  (run_induct (P := fun s => Inv sh N s ∧ LogOk s) (fun t ⟨hi, hl⟩ hs => ⟨step_inv hi t hs, step_logOk hi hl t hs⟩)
    sched ⟨h, hl⟩).2

end Lasso.Conc
