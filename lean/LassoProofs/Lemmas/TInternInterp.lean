import LassoModel.TInternInterp
namespace Lasso
open Lasso.Source

theorem interp_tintern_is_model (env : Env) (t : Threaded) (x : Bytes) :
    interpTIntern env Extracted.internEffects t x = t.tryIntern env x := by
  unfold interpTIntern Threaded.tryIntern Extracted.internEffects
  simp only [runTEffects, Effect.run]
  cases hg : t.get env x with
  | some k => simp
  | none =>
    simp only [hg]
    cases t.arena.store x with
    | ok p =>
      simp only []
      cases keyOfIndex t.N t.ctr with
      | _ => simp
    | _ => simp

theorem interp_tintern_static_is_model (env : Env) (t : Threaded) (i : Nat) :
    interpTInternStatic env Extracted.internStaticEffects t i = t.tryInternStatic env i := by
  unfold interpTInternStatic Threaded.tryInternStatic Extracted.internStaticEffects
  cases env.pool[i]? with
  | none => simp
  | some x =>
    simp only [runTEffects, Effect.run]
    cases hg : t.get env x with
    | some k => simp
    | none =>
      simp only [hg]
      cases keyOfIndex t.N t.ctr with
      | _ => simp

end Lasso
