import LassoProofs.Lemmas.LArena
import LassoProofs.Lemmas.Rodeo
import LassoProofs.Lemmas.Assoc
/-
  The concurrent interner used from one thread: invariant and one-step facts.
-/
namespace Lasso
set_option linter.unusedSimpArgs false

structure Threaded.Inv (env : Env) (t : Threaded) : Prop where
  wf : t.arena.WF
  mapStr : ∀ ref k, (ref, k) ∈ t.map → (k, ref) ∈ t.strs
  strMap : ∀ k ref, (k, ref) ∈ t.strs → (ref, k) ∈ t.map
  strNd : (t.strs.map (·.1)).Nodup
  mapNd : (t.map.map (·.2)).Nodup
  dense : ∀ k, k < t.strs.length ↔ ∃ ref, (k, ref) ∈ t.strs
  ctr : t.ctr = t.strs.length ∨ (t.N ≤ t.ctr ∧ t.strs.length = t.N)
  valid : ∀ k loc, (k, StrRef.arena loc) ∈ t.strs → t.arena.valid loc ∧ loc.len ≠ 0
  statics : ∀ k i, (k, StrRef.static i) ∈ t.strs → i < env.pool.length
  disjoint : ∀ k1 l1 k2 l2, (k1, StrRef.arena l1) ∈ t.strs → (k2, StrRef.arena l2) ∈ t.strs → k1 ≠ k2 → l1.disjoint l2
  distinct : ∀ i j y, t.str env i = some y → t.str env j = some y → i = j
  lenLe : t.strs.length ≤ t.N

theorem Threaded.new_inv (env : Env) (N cap max : Nat) (h : 0 < cap) : (Threaded.new N cap max).Inv env := by
  constructor <;> simp [Threaded.new, LArena.new_wf _ _ h, Threaded.str, Threaded.resolveRef, assocGet]

/-- `str` through the key ↦ reference list; all it needs is that the keys are distinct. -/
theorem Threaded.str_iff_of_nodup {env : Env} {t : Threaded} (hnd : (t.strs.map (·.1)).Nodup) (k : Nat) (y : Bytes) :
    t.str env k = some y ↔ ∃ ref, (k, ref) ∈ t.strs ∧ t.content env ref = some y := by
  unfold Threaded.str Threaded.resolveRef
  constructor
  · intro hs
    cases hg : assocGet k t.strs with
    | none => simp [hg] at hs
    | some ref => simp only [hg] at hs; exact ⟨ref, mem_of_assocGet hg, hs⟩
  · rintro ⟨ref, hm, hc⟩
    rw [assocGet_of_mem hnd hm]; exact hc

theorem Threaded.str_iff {env : Env} {t : Threaded} (h : t.Inv env) (k : Nat) (y : Bytes) :
    t.str env k = some y ↔ ∃ ref, (k, ref) ∈ t.strs ∧ t.content env ref = some y :=
  Threaded.str_iff_of_nodup h.strNd k y

theorem Threaded.content_some {env : Env} {t : Threaded} (h : t.Inv env) {k : Nat} {ref : StrRef}
    (hm : (k, ref) ∈ t.strs) : ∃ y, t.content env ref = some y := by
  cases ref with
  | arena loc =>
    obtain ⟨hv, _⟩ := h.valid k loc hm
    exact (LArena.valid_iff_read h.wf loc).mp hv
  | static i =>
    have := h.statics k i hm
    exact ⟨env.pool[i], by simp [Threaded.content, contentOf, this]⟩
  | empty => exact ⟨[], rfl⟩

/-- The keys in use are exactly `0 .. len-1`, and each denotes a string. -/
theorem Threaded.lt_len_iff {env : Env} {t : Threaded} (h : t.Inv env) (k : Nat) :
    k < t.strs.length ↔ ∃ y, t.str env k = some y := by
  constructor
  · intro hk
    obtain ⟨ref, hr⟩ := (h.dense k).mp hk
    obtain ⟨y, hy⟩ := Threaded.content_some h hr
    exact ⟨y, (Threaded.str_iff h k y).mpr ⟨ref, hr, hy⟩⟩
  · rintro ⟨x, hx⟩
    obtain ⟨ref, hr, _⟩ := (Threaded.str_iff h k x).mp hx
    exact (h.dense k).mpr ⟨ref, hr⟩

/-- A key is in the key → reference map exactly when it is below the count. -/
theorem Threaded.resolveRef_isSome {env : Env} {t : Threaded} (h : t.Inv env) (k : Nat) :
    (t.resolveRef k).isSome = true ↔ k < t.strs.length := by
  rw [h.dense k]
  unfold Threaded.resolveRef
  constructor
  · intro hs
    obtain ⟨r, hr⟩ := Option.isSome_iff_exists.mp hs
    exact ⟨r, mem_of_assocGet hr⟩
  · rintro ⟨r, hr⟩
    rw [assocGet_of_mem h.strNd hr]; rfl

/-- `get` answers exactly "which key holds `x`". -/
theorem Threaded.get_spec {env : Env} {t : Threaded} (h : t.Inv env) (x : Bytes) (k : Nat) :
    t.get env x = some k ↔ t.str env k = some x := by
  unfold Threaded.get
  -- an entry of `map` whose reference denotes `x` names the key that holds `x`
  have hmap : ∀ {e}, t.map.find? (fun e => t.content env e.1 == some x) = some e → t.str env e.2 = some x :=
    fun {e} he => (Threaded.str_iff h _ _).mpr
      ⟨e.1, h.mapStr e.1 e.2 (List.mem_of_find?_eq_some he), by simpa using List.find?_some he⟩
  constructor
  · intro hg
    obtain ⟨e, he, rfl⟩ := Option.map_eq_some_iff.mp hg
    exact hmap he
  · intro hs
    obtain ⟨ref, hm, hc⟩ := (Threaded.str_iff h _ _).mp hs
    cases hf : t.map.find? (fun e => t.content env e.1 == some x) with
    | none => exact absurd (List.find?_eq_none.mp hf (ref, k) (h.strMap k ref hm)) (by simp [hc])
    | some e => rw [Option.map_some, h.distinct e.2 k x (hmap hf) hs]

/-- What a successful insertion of a new string produces. -/
structure Threaded.Pushed (env : Env) (t t' : Threaded) (x : Bytes) (ref : StrRef) : Prop where
  inv : t'.Inv env
  sameN : t'.N = t.N
  strs : t'.strs = (t.strs.length, ref) :: t.strs
  newStr : t'.str env t.strs.length = some x
  old : ∀ j y, t.str env j = some y → t'.str env j = some y
  maxSame : t'.arena.max = t.arena.max

/-- The state after both inserts of a successful intern of a new string. -/
def Threaded.pushState (t : Threaded) (a' : LArena) (ref : StrRef) : Threaded :=
  { t with arena := a', ctr := t.ctr + 1, strs := (t.strs.length, ref) :: t.strs,
           map := t.map ++ [(ref, t.strs.length)] }

/-- What the interner needs of a successful `store` (as `Arena.store_fresh`). -/
theorem LArena.store_fresh {a a' : LArena} {x : Bytes} {ref : StrRef} (env : Env) (h : a.WF)
    (hs : a.store x = .ok (a', ref)) :
    a'.WF ∧ a'.max = a.max ∧ FreshRef env a.valid a'.valid a.read a'.read x ref := by
  refine ⟨LArena.store_wf h hs, (LArena.store_usage hs).1, ?_⟩
  rcases LArena.store_ok hs with ⟨h0, rfl, rfl⟩ | ⟨h0, _, _, rfl, hst, _⟩
  · rw [List.eq_nil_of_length_eq_zero h0]; exact .empty_ref
  · exact hst.freshRef env h.blocks h0

theorem Threaded.str_def (env : Env) (t : Threaded) (k : Nat) :
    t.str env k = (assocGet k t.strs).bind (contentOf env t.arena.read) := by
  unfold Threaded.str Threaded.resolveRef Threaded.content
  cases assocGet k t.strs <;> rfl

/-- Over an arena in which everything old reads as before every key denotes what it did: no reference of a
well-formed interner dangles, so a bigger arena shows nothing new through them. -/
theorem Threaded.str_mono {env : Env} {t : Threaded} (h : t.Inv env) {a' : LArena}
    (hmono : ∀ l y, t.arena.read l = some y → a'.read l = some y) (k : Nat) :
    (assocGet k t.strs).bind (contentOf env a'.read) = t.str env k := by
  rw [Threaded.str_def]
  cases hg : assocGet k t.strs with
  | none => rfl
  | some r =>
    obtain ⟨y, hy⟩ := Threaded.content_some h (mem_of_assocGet hg)
    exact (contentOf_mono hmono hy).trans hy.symm

/-- The key → string function after a push: the old one, with the new key denoting `x`. -/
theorem Threaded.pushState_str {env : Env} {t : Threaded} (h : t.Inv env) {a' : LArena} {ref : StrRef} {x : Bytes}
    (hmono : ∀ l y, t.arena.read l = some y → a'.read l = some y) (hc : contentOf env a'.read ref = some x) (k : Nat) :
    (t.pushState a' ref).str env k = if k = t.strs.length then some x else t.str env k := by
  rw [Threaded.str_def, ← Threaded.str_mono h hmono k]
  simp only [Threaded.pushState, assocGet_cons]
  by_cases hk : k = t.strs.length
  · rw [if_pos hk, if_pos hk.symm]; exact hc
  · rw [if_neg hk, if_neg (Ne.symm hk)]

/-- Installing a fresh reference to a new string under the fresh key `len` in both maps. -/
theorem Threaded.push_inv {env : Env} {t : Threaded} (h : t.Inv env) {a' : LArena} {ref : StrRef} {x : Bytes}
    (hwf : a'.WF) (hmax : a'.max = t.arena.max)
    (hf : FreshRef env t.arena.valid a'.valid t.arena.read a'.read x ref)
    (hnew : ∀ k, t.str env k ≠ some x) (hctr : t.ctr = t.strs.length) (hlen : t.strs.length < t.N) :
    Threaded.Pushed env t (t.pushState a' ref) x ref := by
  have hstr := Threaded.pushState_str h hf.mono hf.content
  -- every key in use is below `len`, so `len` is new to both maps
  have hlt : ∀ k r, (k, r) ∈ t.strs → k < t.strs.length := fun k r hm => (h.dense k).mpr ⟨r, hm⟩
  have hold : ∀ j y, t.str env j = some y → (t.pushState a' ref).str env j = some y := fun j y hj => by
    rw [hstr, if_neg (Nat.ne_of_lt ((Threaded.lt_len_iff h j).mpr ⟨y, hj⟩))]; exact hj
  refine ⟨?_, rfl, rfl, by rw [hstr, if_pos rfl], hold, hmax⟩
  unfold Threaded.pushState
  constructor
  · exact hwf
  · intro r k hm
    rcases List.mem_append.mp hm with hm | hm
    · exact List.mem_cons_of_mem _ (h.mapStr r k hm)
    · cases List.mem_singleton.mp hm; exact List.mem_cons_self ..
  · intro k r hm
    rcases List.mem_cons.mp hm with hm | hm
    · cases hm; exact List.mem_append_right _ (List.mem_singleton_self _)
    · exact List.mem_append_left _ (h.strMap k r hm)
  · refine List.nodup_cons.mpr ⟨fun hm => ?_, h.strNd⟩
    obtain ⟨e, he, hk⟩ := List.mem_map.mp hm
    exact Nat.ne_of_lt (hlt e.1 e.2 he) hk
  · rw [List.map_append, List.nodup_append]
    refine ⟨h.mapNd, by simp, fun a ha b hb => ?_⟩
    obtain ⟨e, he, rfl⟩ := List.mem_map.mp ha
    cases List.mem_singleton.mp hb
    exact Nat.ne_of_lt (hlt e.2 e.1 (h.mapStr e.1 e.2 he))
  · intro k
    rw [List.length_cons, Nat.lt_succ_iff_lt_or_eq, h.dense k]
    constructor
    · rintro (⟨r, hr⟩ | rfl)
      · exact ⟨r, List.mem_cons_of_mem _ hr⟩
      · exact ⟨ref, List.mem_cons_self ..⟩
    · rintro ⟨r, hr⟩
      rcases List.mem_cons.mp hr with hr | hr
      · cases hr; exact .inr rfl
      · exact .inl ⟨r, hr⟩
  · exact .inl (by rw [List.length_cons, hctr])
  · intro k loc hm
    rcases List.mem_cons.mp hm with hm | hm
    · cases hm; exact ⟨(hf.loc loc rfl).1, (hf.loc loc rfl).2.1⟩
    · exact ⟨LArena.valid_mono h.wf hwf hf.mono (h.valid k loc hm).1, (h.valid k loc hm).2⟩
  · intro k i hm
    rcases List.mem_cons.mp hm with hm | hm
    · cases hm; exact hf.static i rfl
    · exact h.statics k i hm
  · -- the new region is disjoint from every old one (`hf.loc`), in either order
    intro k1 l1 k2 l2 h1 h2 hne
    rcases List.mem_cons.mp h1 with e1 | m1 <;> rcases List.mem_cons.mp h2 with e2 | m2
    · cases e1; cases e2; exact absurd rfl hne
    · cases e1
      have := (hf.loc l1 rfl).2.2 l2 (h.valid k2 l2 m2).1
      unfold Loc.disjoint at *
      omega
    · cases e2; exact (hf.loc l2 rfl).2.2 l1 (h.valid k1 l1 m1).1
    · exact h.disjoint k1 l1 k2 l2 m1 m2 hne
  · exact distinct_push hstr h.distinct hnew
  · exact hlen

/-- A failed key mint: the counter and (for the copying path) the arena have moved, both maps are
untouched; every association and the invariant survive. -/
theorem Threaded.burn_inv {env : Env} {t : Threaded} (h : t.Inv env) {a' : LArena}
    (hwf : a'.WF) (hmono : ∀ l y, t.arena.read l = some y → a'.read l = some y)
    (hfull : t.N ≤ t.ctr) :
    ({ t with arena := a', ctr := t.ctr + 1 } : Threaded).Inv env ∧
    ∀ k, ({ t with arena := a', ctr := t.ctr + 1 } : Threaded).str env k = t.str env k := by
  have hstr : ∀ k, ({ t with arena := a', ctr := t.ctr + 1 } : Threaded).str env k = t.str env k :=
    fun k => (Threaded.str_def ..).trans (Threaded.str_mono h hmono k)
  refine ⟨?_, hstr⟩
  obtain ⟨h1, h2, h3, h4, h4b, h5, h6, h7, h8, h9, h10, h11⟩ := h
  refine ⟨hwf, h2, h3, h4, h4b, h5, .inr ⟨Nat.le_succ_of_le hfull, ?_⟩, ?_, h8, h9, ?_, h11⟩
  · show t.strs.length = t.N
    rcases h6 with h6 | h6 <;> omega
  · intro k loc hm
    exact ⟨LArena.valid_mono h1 hwf hmono (h7 k loc hm).1, (h7 k loc hm).2⟩
  · intro i j y hi hj
    rw [hstr] at hi hj
    exact h10 i j y hi hj

/-! ### The two interning functions

After the lookup has answered "absent" both do the same with a reference `ref` over an arena `a'`: `mint`. -/

/-- Take the next counter value; if the key space is exhausted it is burnt (counter and arena have moved,
the maps have not), otherwise `(key, ref)` goes into both maps. -/
def Threaded.mint (t : Threaded) (a' : LArena) (ref : StrRef) : Threaded × Out Nat :=
  if t.strs.length < t.N then (t.pushState a' ref, .ok t.strs.length)
  else ({ t with arena := a', ctr := t.ctr + 1 }, .err .keySpace)

/-- The counter test and the overwriting insert of the source, under the invariant. -/
theorem Threaded.mint_eq {env : Env} {t : Threaded} (h : t.Inv env) (a' : LArena) (ref : StrRef) :
    (match keyOfIndex t.N t.ctr with
      | none => (({ t with arena := a', ctr := t.ctr + 1 } : Threaded), Out.err Err.keySpace)
      | some _ => ({ t with arena := a', ctr := t.ctr + 1, strs := assocInsert t.ctr ref t.strs,
                            map := t.map ++ [(ref, t.ctr)] }, .ok t.ctr)) = t.mint a' ref := by
  unfold Threaded.mint keyOfIndex
  have hle := h.lenLe
  by_cases hlt : t.strs.length < t.N
  · have hctr : t.ctr = t.strs.length := by rcases h.ctr with hc | hc <;> omega
    have hfr : ∀ e ∈ t.strs, e.1 ≠ t.strs.length := fun e he hek => by
      have := (h.dense e.1).mpr ⟨e.2, he⟩; omega
    simp [hlt, hctr, assocInsert_fresh ref hfr, Threaded.pushState]
  · have : ¬ t.ctr < t.N := by rcases h.ctr with hc | hc <;> omega
    simp [hlt, this]

theorem Threaded.tryIntern_eq {env : Env} {t : Threaded} (h : t.Inv env) (x : Bytes) :
    t.tryIntern env x =
      match t.get env x with
      | some k => (t, .ok k)
      | none =>
        match t.arena.store x with
        | .ok (a', ref) => t.mint a' ref
        | .err e => (t, .err e)
        | .panic => (t, .panic)
        | .fault f => (t, .fault f) := by
  unfold Threaded.tryIntern
  cases t.get env x with
  | some k => rfl
  | none =>
    cases t.arena.store x with
    | ok p => exact Threaded.mint_eq h p.1 p.2
    | _ => rfl

theorem Threaded.tryInternStatic_eq {env : Env} {t : Threaded} (h : t.Inv env) {i : Nat} {x : Bytes}
    (hp : env.pool[i]? = some x) :
    t.tryInternStatic env i =
      match t.get env x with
      | some k => (t, .ok k)
      | none => t.mint t.arena (.static i) := by
  unfold Threaded.tryInternStatic
  simp only [hp]
  cases t.get env x with
  | some k => rfl
  | none => exact Threaded.mint_eq h t.arena (.static i)

/-- What `mint` returned (`res`) for a fresh reference to a new string: with the key space exhausted the key
is burnt (counter and arena have moved, every association stands), otherwise the string is pushed. -/
def Threaded.Mints (env : Env) (t : Threaded) (a' : LArena) (ref : StrRef) (x : Bytes) (res : Threaded × Out Nat) :
    Prop :=
  (t.strs.length = t.N ∧ res = ({ t with arena := a', ctr := t.ctr + 1 }, .err .keySpace) ∧
      ({ t with arena := a', ctr := t.ctr + 1 } : Threaded).Inv env ∧
      (∀ k y, t.str env k = some y ↔ ({ t with arena := a', ctr := t.ctr + 1 } : Threaded).str env k = some y)) ∨
  (t.strs.length < t.N ∧ res = (t.pushState a' ref, .ok t.strs.length) ∧
      Threaded.Pushed env t (t.pushState a' ref) x ref)

theorem Threaded.mint_spec {env : Env} {t : Threaded} (h : t.Inv env) {a' : LArena} {ref : StrRef} {x : Bytes}
    (hwf : a'.WF) (hmax : a'.max = t.arena.max)
    (hf : FreshRef env t.arena.valid a'.valid t.arena.read a'.read x ref) (hnew : ∀ k, t.str env k ≠ some x) :
    Threaded.Mints env t a' ref x (t.mint a' ref) := by
  unfold Threaded.mint
  have hle := h.lenLe
  by_cases hlt : t.strs.length < t.N
  · have hctr : t.ctr = t.strs.length := by rcases h.ctr with hc | hc <;> omega
    exact .inr ⟨hlt, by simp [hlt], Threaded.push_inv h hwf hmax hf hnew hctr hlt⟩
  · have hfull : t.N ≤ t.ctr := by rcases h.ctr with hc | hc <;> omega
    obtain ⟨hi, hstr⟩ := Threaded.burn_inv h hwf hf.mono hfull
    exact .inl ⟨by omega, by simp [hlt], hi, fun k y => by rw [hstr k]⟩

/-- Either way the result is well-formed and keeps every association. -/
theorem Threaded.Mints.step {env : Env} {t : Threaded} {a' : LArena} {ref : StrRef} {x : Bytes}
    {res : Threaded × Out Nat} (hm : Threaded.Mints env t a' ref x res) :
    res.1.Inv env ∧ ∀ k y, t.str env k = some y → res.1.str env k = some y := by
  rcases hm with ⟨_, rfl, hi, hk⟩ | ⟨_, rfl, hp⟩
  · exact ⟨hi, fun k y => (hk k y).mp⟩
  · exact ⟨hp.inv, hp.old⟩

theorem Threaded.get_none {env : Env} {t : Threaded} (h : t.Inv env) {x : Bytes} (hg : t.get env x = none)
    (k : Nat) : t.str env k ≠ some x :=
  fun hk => by rw [(Threaded.get_spec h x k).mpr hk] at hg; cases hg

/-- Complete case analysis of `ThreadedRodeo::try_get_or_intern` used from one thread. -/
theorem Threaded.tryIntern_spec {env : Env} {t : Threaded} (h : t.Inv env) (x : Bytes) :
    (∃ k, t.str env k = some x ∧ t.tryIntern env x = (t, .ok k)) ∨
    ((∀ k, t.str env k ≠ some x) ∧
      ((t.arena.store x = .err .memoryLimit ∧ t.tryIntern env x = (t, .err .memoryLimit)) ∨
       (∃ a' ref, t.arena.store x = .ok (a', ref) ∧ Threaded.Mints env t a' ref x (t.tryIntern env x)))) := by
  rw [Threaded.tryIntern_eq h]
  cases hg : t.get env x with
  | some k => exact .inl ⟨k, (Threaded.get_spec h x k).mp hg, rfl⟩
  | none =>
    refine .inr ⟨Threaded.get_none h hg, ?_⟩
    rcases LArena.store_total t.arena x with ⟨a', ref, hs⟩ | ⟨hs, _⟩
    · obtain ⟨hwf, hmax, hf⟩ := LArena.store_fresh env h.wf hs
      refine .inr ⟨a', ref, hs, ?_⟩
      rw [hs]
      exact Threaded.mint_spec h hwf hmax hf (Threaded.get_none h hg)
    · exact .inl ⟨hs, by rw [hs]⟩

/-- Complete case analysis of `ThreadedRodeo::try_get_or_intern_static` used from one thread. -/
theorem Threaded.tryInternStatic_spec {env : Env} {t : Threaded} (h : t.Inv env) (i : Nat) (x : Bytes)
    (hp : env.pool[i]? = some x) :
    (∃ k, t.str env k = some x ∧ t.tryInternStatic env i = (t, .ok k)) ∨
    ((∀ k, t.str env k ≠ some x) ∧ Threaded.Mints env t t.arena (.static i) x (t.tryInternStatic env i)) := by
  rw [Threaded.tryInternStatic_eq h hp]
  cases hg : t.get env x with
  | some k => exact .inl ⟨k, (Threaded.get_spec h x k).mp hg, rfl⟩
  | none => exact .inr ⟨Threaded.get_none h hg, Threaded.mint_spec h h.wf rfl (.static_ref hp) (Threaded.get_none h hg)⟩

/-- A successful call: the string was there and nothing changed, or it was new and has been pushed under
the next key. -/
theorem Threaded.tryIntern_ok {env : Env} {t t' : Threaded} (h : t.Inv env) {x : Bytes} {k : Nat}
    (he : t.tryIntern env x = (t', .ok k)) :
    (t' = t ∧ t.str env k = some x) ∨
    (k = t.strs.length ∧ (∀ j, t.str env j ≠ some x) ∧
      ∃ a' ref, t.arena.store x = .ok (a', ref) ∧ t' = t.pushState a' ref ∧ Threaded.Pushed env t t' x ref) := by
  rcases Threaded.tryIntern_spec h x with ⟨_, hk, e⟩ | ⟨hn, ⟨_, e⟩ | ⟨a', ref, hs, ⟨_, e, _⟩ | ⟨_, e, hp⟩⟩⟩ <;>
    rw [e] at he <;> cases he
  · exact .inl ⟨rfl, hk⟩
  · exact .inr ⟨rfl, hn, a', ref, hs, rfl, hp⟩

theorem Threaded.tryInternStatic_ok {env : Env} {t t' : Threaded} (h : t.Inv env) {i : Nat} {x : Bytes}
    (hp : env.pool[i]? = some x) {k : Nat} (he : t.tryInternStatic env i = (t', .ok k)) :
    (t' = t ∧ t.str env k = some x) ∨
    (k = t.strs.length ∧ (∀ j, t.str env j ≠ some x) ∧ t' = t.pushState t.arena (.static i) ∧
      Threaded.Pushed env t t' x (.static i)) := by
  rcases Threaded.tryInternStatic_spec h i x hp with ⟨_, hk, e⟩ | ⟨hn, ⟨_, e, _⟩ | ⟨_, e, hq⟩⟩ <;>
    rw [e] at he <;> cases he
  · exact .inl ⟨rfl, hk⟩
  · exact .inr ⟨rfl, hn, rfl, hq⟩

/-- What every caller with a key in hand needs (as `Rodeo.Minted`). -/
structure Threaded.Minted (env : Env) (t t' : Threaded) (x : Bytes) (k : Nat) : Prop where
  inv : t'.Inv env
  str : t'.str env k = some x
  old : ∀ j y, t.str env j = some y → t'.str env j = some y

theorem Threaded.tryIntern_minted {env : Env} {t t' : Threaded} (h : t.Inv env) {x : Bytes} {k : Nat}
    (he : t.tryIntern env x = (t', .ok k)) : Threaded.Minted env t t' x k := by
  rcases Threaded.tryIntern_ok h he with ⟨rfl, hk⟩ | ⟨rfl, _, _, _, _, _, hp⟩
  · exact ⟨h, hk, fun _ _ h => h⟩
  · exact ⟨hp.inv, hp.newStr, hp.old⟩

theorem Threaded.tryInternStatic_minted {env : Env} {t t' : Threaded} (h : t.Inv env) {i : Nat} {x : Bytes}
    (hp : env.pool[i]? = some x) {k : Nat} (he : t.tryInternStatic env i = (t', .ok k)) :
    Threaded.Minted env t t' x k := by
  rcases Threaded.tryInternStatic_ok h hp he with ⟨rfl, hk⟩ | ⟨rfl, _, _, hp⟩
  · exact ⟨h, hk, fun _ _ h => h⟩
  · exact ⟨hp.inv, hp.newStr, hp.old⟩

theorem Threaded.setLimit_inv {env : Env} {t : Threaded} (h : t.Inv env) (m : Nat) : (t.setLimit m).Inv env := by
  obtain ⟨h1, h2, h3, h4, h4b, h5, h6, h7, h8, h9, h10, h11⟩ := h
  have hwf : ({ t.arena with max := m } : LArena).WF := by
    obtain ⟨a1, a2, a3, a4, a5⟩ := h1
    exact ⟨a1, a2, a3, a4, a5⟩
  exact ⟨hwf, h2, h3, h4, h4b, h5, h6, h7, h8, h9, h10, h11⟩

/-- Two well-formed interners with the same number of keys agree as soon as one has every string of the
other under the same key. -/
theorem Threaded.str_ext {env : Env} {a b : Threaded} (ha : a.Inv env) (hb : b.Inv env)
    (hl : a.strs.length = b.strs.length) (h : ∀ k y, a.str env k = some y → b.str env k = some y) (k : Nat) :
    a.str env k = b.str env k := by
  cases hk : a.str env k with
  | some y => exact (h k y hk).symm
  | none =>
    cases hbk : b.str env k with
    | none => rfl
    | some y =>
      obtain ⟨y', hy'⟩ := (Threaded.lt_len_iff ha k).mp (hl ▸ (Threaded.lt_len_iff hb k).mpr ⟨y, hbk⟩)
      rw [hk] at hy'
      cases hy'

end Lasso
