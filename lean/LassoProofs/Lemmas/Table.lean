import LassoModel.Rodeo
/-
  Helper lemmas about the raw-entry table, for an arbitrary hash function and an arbitrary
  "string of key" function `S`.
-/
namespace Lasso
set_option linter.unusedSimpArgs false

/-- Table invariant relative to the key->bytes function `S` of a vector of length `n`. -/
structure TInv (hash : Bytes → UInt64) (S : Nat → Option Bytes) (n : Nat) (t : Table) : Prop where
  placed : ∀ e ∈ t, ∃ s, S e.2 = some s ∧ e.1 = hash s
  covers : ∀ k, k < n → ∃ e ∈ t, e.2 = k
  bound : ∀ e ∈ t, e.2 < n

theorem TInv.empty (hash : Bytes → UInt64) (S : Nat → Option Bytes) : TInv hash S 0 [] := by
  constructor <;> simp

/-- The pure core of `tableFind`. -/
def tfind (hash : Bytes → UInt64) (S : Nat → Option Bytes) (t : Table) (x : Bytes) : Option Nat :=
  (t.find? (fun e => e.1 == hash x && S e.2 == some x)).map (·.2)

theorem tableFind_eq (env : Env) (read : Loc → Option Bytes) (strings : List StrRef) (t : Table) (x : Bytes)
    (hb : ∀ e ∈ t, e.2 < strings.length) :
    tableFind env read strings t x = .ok (tfind env.hash (strAt env read strings) t x) := by
  unfold tableFind tfind
  have : t.all (fun e => decide (e.2 < strings.length)) = true := by
    simp only [List.all_eq_true, decide_eq_true_eq]; exact hb
  simp [this]

theorem tfind_some {hash : Bytes → UInt64} {S : Nat → Option Bytes} {t : Table} {x : Bytes} {k : Nat}
    (h : tfind hash S t x = some k) : S k = some x ∧ ∃ e ∈ t, e.2 = k := by
  unfold tfind at h
  simp only [Option.map_eq_some_iff] at h
  obtain ⟨e, he, rfl⟩ := h
  have hm := List.mem_of_find?_eq_some he
  have hp := List.find?_some he
  simp only [Bool.and_eq_true, beq_iff_eq] at hp
  exact ⟨hp.2, e, hm, rfl⟩

theorem tfind_none {hash : Bytes → UInt64} {S : Nat → Option Bytes} {n : Nat} {t : Table} {x : Bytes}
    (hi : TInv hash S n t) (h : tfind hash S t x = none) : ∀ k, k < n → S k ≠ some x := by
  intro k hk hS
  unfold tfind at h
  simp only [Option.map_eq_none_iff, List.find?_eq_none] at h
  obtain ⟨e, he, rfl⟩ := hi.covers k hk
  obtain ⟨s, hs, hh⟩ := hi.placed e he
  have := h e he
  simp only [Bool.and_eq_true, beq_iff_eq, not_and] at this
  rw [hs] at hS
  injection hS with hS
  subst hS
  exact this hh hs

/-- With pairwise distinct contents the lookup is exact: it finds `k` iff key `k` holds `x`. -/
theorem tfind_spec {hash : Bytes → UInt64} {S : Nat → Option Bytes} {n : Nat} {t : Table} (x : Bytes)
    (hi : TInv hash S n t) (hdom : ∀ k y, S k = some y → k < n)
    (hd : ∀ i j y, S i = some y → S j = some y → i = j) (k : Nat) :
    tfind hash S t x = some k ↔ S k = some x := by
  constructor
  · intro h; exact (tfind_some h).1
  · intro hS
    cases hf : tfind hash S t x with
    | none => exact absurd hS (tfind_none hi hf k (hdom k x hS))
    | some j => rw [hd j k x (tfind_some hf).1 hS]

/-- The source's rehash closure re-places every entry exactly where it already is. -/
theorem rehashAll_id {hash : Bytes → UInt64} {S : Nat → Option Bytes} {t : Table}
    (hp : ∀ e ∈ t, ∃ s, S e.2 = some s ∧ e.1 = hash s) :
    rehashAll (fun k => (S k).map hash) t = some t := by
  induction t with
  | nil => rfl
  | cons e rest ih =>
    obtain ⟨s, hs, hh⟩ := hp e (by simp)
    have := ih (fun e' he' => hp e' (by simp [he']))
    simp only [rehashAll, hs, Option.map_some, this]
    cases e; simp_all

theorem tableInsert_ok {hash : Bytes → UInt64} {S : Nat → Option Bytes} {t : Table}
    (hp : ∀ e ∈ t, ∃ s, S e.2 = some s ∧ e.1 = hash s) (h : UInt64) (k : Nat) (grow : Bool) :
    tableInsert t h k grow (fun k => (S k).map hash) = .ok (t ++ [(h, k)]) := by
  unfold tableInsert
  cases grow <;> simp [rehashAll_id hp]

/-- Appending the entry for a new last key keeps the invariant, for the extended `S'`. -/
theorem TInv.push {hash : Bytes → UInt64} {S S' : Nat → Option Bytes} {n : Nat} {t : Table} {x : Bytes}
    (hi : TInv hash S n t) (hext : ∀ k, k < n → S' k = S k) (hnew : S' n = some x) :
    TInv hash S' (n + 1) (t ++ [(hash x, n)]) := by
  obtain ⟨h1, h2, h3⟩ := hi
  constructor
  · intro e he
    simp only [List.mem_append, List.mem_singleton] at he
    rcases he with he | rfl
    · obtain ⟨s, hs, hh⟩ := h1 e he
      exact ⟨s, by rw [hext _ (h3 e he)]; exact hs, hh⟩
    · exact ⟨x, hnew, rfl⟩
  · intro k hk
    by_cases hkn : k < n
    · obtain ⟨e, he, rfl⟩ := h2 k hkn
      exact ⟨e, by simp [he], rfl⟩
    · have : k = n := by omega
      subst this
      exact ⟨(hash x, k), by simp, rfl⟩
  · intro e he
    simp only [List.mem_append, List.mem_singleton] at he
    rcases he with he | rfl
    · have := h3 e he; omega
    · simp


/-- Under an injective key → string function two keys are equal exactly when their strings are. -/
theorem key_eq_iff {S : Nat → Option Bytes} (hd : ∀ i j y, S i = some y → S j = some y → i = j) {i j : Nat}
    {x y : Bytes} (hi : S i = some x) (hj : S j = some y) : i = j ↔ x = y :=
  ⟨fun e => Option.some.inj ((e ▸ hi).symm.trans hj), fun e => hd i j y (e ▸ hi) hj⟩

/-- Giving a new string to one more key keeps a key → string function injective. -/
theorem distinct_push {S S' : Nat → Option Bytes} {n : Nat} {x : Bytes}
    (hS' : ∀ k, S' k = if k = n then some x else S k)
    (hd : ∀ i j y, S i = some y → S j = some y → i = j) (hnew : ∀ k, S k ≠ some x) :
    ∀ i j y, S' i = some y → S' j = some y → i = j := by
  intro i j y hi hj
  rw [hS'] at hi hj
  split at hi <;> split at hj
  · rw [‹i = n›, ‹j = n›]
  · cases hi; exact absurd hj (hnew j)
  · cases hj; exact absurd hi (hnew i)
  · exact hd i j y hi hj

theorem tableFind_cases (env : Env) (read : Loc → Option Bytes) (strings : List StrRef) (t : Table) (x : Bytes) :
    (∃ o, tableFind env read strings t x = .ok o) ∨ tableFind env read strings t x = .fault .oobIndex := by
  unfold tableFind
  split
  · exact Or.inl ⟨_, rfl⟩
  · exact Or.inr rfl

theorem tableInsert_cases (t : Table) (h : UInt64) (k : Nat) (grow : Bool) (rehash : Nat → Option UInt64) :
    (∃ t', tableInsert t h k grow rehash = .ok t') ∨ tableInsert t h k grow rehash = .fault .oobIndex := by
  unfold tableInsert
  split
  · split
    · exact Or.inl ⟨_, rfl⟩
    · exact Or.inr rfl
  · exact Or.inl ⟨_, rfl⟩

end Lasso
