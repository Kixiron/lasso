import LassoModel.DeserInterp
/-
  Running the effect sequence regenerated from `Rodeo::deserialize` / `RodeoReader::deserialize` is the model's
  `deListLoop`, for every document, start index, table, vector and arena.
-/
namespace Lasso
open Lasso.Source

theorem deRodeo_loopBody :
    loopBody Extracted.deRodeoEffects =
      [.store, .expectStored, .hashOne, .probe, .reject, .keyCheck .loopIndex, .reject, .stringsPush, .tableInsert] := rfl

theorem deRodeo_mayGrow : mayGrow Extracted.deRodeoEffects = false := rfl

theorem interp_deRodeo_is_model (env : Env) (N : Nat) (doc : List Bytes) :
    ∀ (idx : Nat) (t : Table) (ss : List StrRef) (a : Arena),
      interpListLoop env N Extracted.deRodeoEffects doc idx t ss a = deListLoop env N doc idx t ss a := by
  induction doc with
  | nil => intro idx t ss a; simp [interpListLoop, deListLoop]
  | cons x rest ih =>
    intro idx t ss a
    unfold interpListLoop deListLoop
    rw [deRodeo_loopBody, deRodeo_mayGrow]
    simp only [runEffects, DEffect.run, DReg.start]
    cases a.store x with
    | ok p =>
      obtain ⟨a', ref⟩ := p
      simp only []
      cases tableFind env a'.read ss t x with
      | ok o =>
        cases o with
        | some k => simp
        | none =>
          simp only [Option.isSome_none]
          cases keyOfIndex N idx with
          | none => simp
          | some raw =>
            simp only [Option.isNone_some, Option.isSome_some]
            cases tableInsert t (env.hash x) idx false (rehashFn env a'.read (ss ++ [ref])) with
            | ok t' => simp [ih]
            | _ => simp
      | _ => simp
    | _ => simp

end Lasso

namespace Lasso
open Lasso.Source

theorem deResolver_loopBody :
    loopBody Extracted.deResolverEffects = [.store, .expectStored, .stringsPush] := rfl

theorem interp_deResolver_is_model (doc : List Bytes) :
    ∀ (ss : List StrRef) (a : Arena),
      interpResolverLoop Extracted.deResolverEffects doc ss a = deResolverLoop doc ss a := by
  induction doc with
  | nil => intro ss a; simp [interpResolverLoop, deResolverLoop]
  | cons x rest ih =>
    intro ss a
    unfold interpResolverLoop deResolverLoop
    rw [deResolver_loopBody]
    simp only [runEffectsR, DEffect.runR]
    cases a.store x with
    | ok p => simp [ih]
    | _ => simp

/-- The resolver's check before the loop is the one the model makes: refuse iff the list is not empty and its
last position has no key. -/
theorem deResolver_precheck (N n : Nat) :
    resolverPrecheck N Extracted.deResolverEffects n = some (decide (n ≠ 0 ∧ (keyOfIndex N (n - 1)).isNone)) :=
  rfl

theorem deThreaded_loopBody :
    loopBody Extracted.deThreadedEffects = [.counterMax, .store, .expectStored, .mapInsert, .stringsInsert] := rfl

theorem interp_deThreaded_is_model (doc : List (Bytes × Nat)) :
    ∀ (t : Threaded), interpThreadedLoop Extracted.deThreadedEffects doc t = deThreadedLoop doc t := by
  induction doc with
  | nil => intro t; simp [interpThreadedLoop, deThreadedLoop]
  | cons e rest ih =>
    intro t
    obtain ⟨x, raw⟩ := e
    unfold interpThreadedLoop deThreadedLoop
    rw [deThreaded_loopBody]
    simp only [runEffectsT, DEffect.runT]
    cases t.arena.store x with
    | ok p => simp [ih]
    | _ => simp

theorem deThreaded_postcheck : threadedPostcheck Extracted.deThreadedEffects = true := rfl

end Lasso
