import LassoProofs.Lemmas.ConcArena
import LassoProofs.Lemmas.Grow
/-
  One `store_str` call of the arena machine, run by one thread without interference: the walk puts the
  string into the first block of the list that has room; if none has, the growth steps
  (`growCap … pushCas`) do what the closed form `growSpec` of the source's decision tree says on the
  values of capacity, usage and limit in the state.  `lockfreeGrow_spec` identifies `growSpec` with the
  tree regenerated from `LockfreeArena::store_str`, `larena_grow_is_spec` with the sequential model: the
  hand-written micro-steps of `ConcArena.step` are tied to both.
-/
namespace Lasso.CA
open Lasso Lasso.Source Lasso.Grow

def envOf (s : AS) (x : Bytes) : Env := { len := x.length, bucketCap := s.bucketCap, usage := s.usage, max := s.max }

/-- What the uninterrupted growth of thread 0 must have produced, according to the source's tree. -/
def Matches (s s' : AS) (rest : List Bytes) (x : Bytes) : Option Outcome → Prop
  | some .err =>
      s'.usage = s.usage ∧ s'.buckets = s.buckets ∧ s'.bucketCap = s.bucketCap ∧ s'.nextId = s.nextId ∧
      s'.log = (0, x, .err) :: s.log ∧ s'.ts = [{ pc := .idle, todo := rest }]
  | some (.grow claim size newCap place) =>
      x.length ≤ size ∧ place = .pushFront ∧
      s'.usage = s.usage + claim ∧ s'.buckets = freshB s.nextId size x :: s.buckets ∧
      s'.bucketCap = newCap.getD s.bucketCap ∧ s'.nextId = s.nextId + 1 ∧
      s'.log = (0, x, .ok s.nextId 0) :: s.log ∧ s'.ts = [{ pc := .idle, todo := rest }]
  | none => False

def fits (n : Nat) (b : ABucket) : Bool := decide (b.len + n ≤ b.cap)

/-- The reservation and the completed copy, as the two `updB`s the machine performs. -/
def stored (bs : List ABucket) (b : ABucket) (x : Bytes) : List ABucket :=
  updB (updB bs b.id fun k => { k with len := b.len + x.length, claims := { off := b.len, n := x.length, data := none } :: k.claims })
    b.id fun k => { k with claims := fillClaim k.claims b.len x }

theorem stored_eq (bs : List ABucket) (b : ABucket) (x : Bytes) :
    stored bs b x = updB (updB bs b.id (reserveB b.len x.length)) b.id (fillB b.len x) := rfl

/-- Runs of thread 0 alone compose. -/
theorem run_solo_add {s s1 : AS} {m : Nat} (h : run s (List.replicate m (0, false)) = s1) (n : Nat) :
    run s (List.replicate (m + n) (0, false)) = run s1 (List.replicate n (0, false)) := by
  rw [← List.replicate_append_replicate, run_append, h]

theorem succOf_append_cons (p : List ABucket) (b : ABucket) (rem : List ABucket)
    (hnd : ((p ++ b :: rem).map (·.id)).Nodup) : succOf (p ++ b :: rem) b.id = headId rem := by
  induction p with
  | nil => simp [succOf]
  | cons a r ih =>
    obtain ⟨ha, hnd⟩ := List.nodup_cons.mp hnd
    have hne : a.id ≠ b.id := fun e => ha (List.mem_map.mpr ⟨b, by simp, e.symm⟩)
    simp only [List.cons_append, succOf, hne, ↓reduceIte]
    exact ih hnd

section
-- A run of a few steps from a state whose one thread is given is computed by unfolding these.
attribute [local simp] List.replicate run step setPc done headId

theorem solo_grow (s : AS) (x : Bytes) (rest : List Bytes) (hx : 0 < x.length)
    (ht : s.ts = [{ pc := .growCap x, todo := rest }]) :
    ∃ n, Matches s (run s (List.replicate n (0, false))) rest x (some (growSpec .pushFront .pushFront (envOf s x))) := by
  by_cases h1 : x.length > s.bucketCap * 2
  · -- oversized: growCap, allocMax, allocUpd, pushLoad, pushCas
    by_cases h2 : s.usage + x.length > s.max
    · exact ⟨3, by simp [ht, h1, h2, growSpec, envOf, Matches]⟩
    · have hne : ¬ x.length = 0 := by omega
      exact ⟨5, by simp [ht, h1, h2, hne, growSpec, envOf, Matches, freshB]⟩
  · by_cases h2 : s.usage + s.bucketCap * 2 > s.max
    · -- the remaining budget: growCap, growUsage, growMax, allocMax, allocUpd, pushLoad, pushCas
      by_cases h3 : s.max - s.usage < x.length
      · exact ⟨3, by simp [ht, h1, h2, h3, growSpec, envOf, Matches]⟩
      · have h4 : ¬ s.usage + (s.max - s.usage) > s.max := by omega
        have h5 : ¬ s.max - s.usage = 0 := by omega
        refine ⟨7, ?_⟩
        simp [ht, h1, h2, h3, h4, h5, growSpec, envOf, Matches, freshB]
        omega
    · -- doubled: … allocUpd, storeCap, pushLoad, pushCas
      refine ⟨8, ?_⟩
      simp [ht, h1, h2, growSpec, envOf, Matches, freshB]
      omega

/-- The walk from the cursor `cur`, behind which `rem` is still to be visited. -/
theorem solo_walk (x : Bytes) (rest : List Bytes) (rem : List ABucket) :
    ∀ (s : AS) (pre : List ABucket) (cur : Option Nat),
      s.buckets = pre ++ rem → nextOf s.buckets cur = headId rem → (s.buckets.map (·.id)).Nodup →
      s.ts = [{ pc := .walk x cur, todo := rest }] →
      ∃ n, match rem.find? (fits x.length) with
        | some b => run s (List.replicate n (0, false)) =
            { s with ts := [{ pc := .idle, todo := rest }], log := (0, x, .ok b.id b.len) :: s.log,
                     buckets := stored s.buckets b x }
        | none => run s (List.replicate n (0, false)) = { s with ts := [{ pc := .growCap x, todo := rest }] } := by
  induction rem with
  | nil =>
    intro s pre cur _ hn _ ht
    exact ⟨1, by simp [ht, hn]⟩
  | cons b rem' ih =>
    intro s pre cur hb hn hnd ht
    have hf : findB s.buckets b.id = some b := findB_of_mem hnd (by simp [hb])
    by_cases hfit : b.len + x.length ≤ b.cap
    · -- walk, loadLen, cas (succeeds), copy
      rw [List.find?_cons_of_pos (by simp [fits, hfit])]
      exact ⟨4, by simp [ht, hn, hf, hfit, stored]⟩
    · -- walk, loadLen (no room), then on from `b`
      rw [List.find?_cons_of_neg (by simp [fits, hfit])]
      have hrun2 : run s (List.replicate 2 (0, false)) = { s with ts := [{ pc := .walk x (some b.id), todo := rest }] } := by
        simp [ht, hn, hf, hfit]
      obtain ⟨n, hres⟩ := ih { s with ts := [{ pc := .walk x (some b.id), todo := rest }] } (pre ++ [b]) (some b.id)
        (by simp [hb]) (by rw [hb] at hnd ⊢; exact succOf_append_cons pre b rem' hnd) hnd rfl
      exact ⟨2 + n, by rw [run_solo_add hrun2]; exact hres⟩

/-- **One `store_str` call run without interference**, from the call to its return: the string goes
into the first block of the list that has room; if none has, the outcome is `growSpec`'s. -/
theorem solo_store (s : AS) (x : Bytes) (rest : List Bytes) (hnd : (s.buckets.map (·.id)).Nodup)
    (ht : s.ts = [{ pc := .idle, todo := x :: rest }]) :
    ∃ sched : List (Nat × Bool), (∀ e ∈ sched, e = (0, false)) ∧
      if x.length = 0 then
        run s sched = { s with ts := [{ pc := .idle, todo := rest }], log := (0, x, .empty) :: s.log }
      else match s.buckets.find? (fits x.length) with
        | some b => run s sched = { s with ts := [{ pc := .idle, todo := rest }], log := (0, x, .ok b.id b.len) :: s.log,
                                           buckets := stored s.buckets b x }
        | none => Matches s (run s sched) rest x (some (growSpec .pushFront .pushFront (envOf s x))) := by
  by_cases hx : x.length = 0
  · exact ⟨[(0, false)], by simp, by simp [hx, ht]⟩
  · simp only [hx, ↓reduceIte]
    have h1 : run s (List.replicate 1 (0, false)) = { s with ts := [{ pc := .walk x none, todo := rest }] } := by
      simp [ht, hx]
    obtain ⟨n, hres⟩ := solo_walk x rest s.buckets { s with ts := [{ pc := .walk x none, todo := rest }] } [] none rfl rfl
      hnd rfl
    cases hfind : s.buckets.find? (fits x.length) with
    | some b =>
      rw [hfind] at hres
      exact ⟨_, fun _ => List.eq_of_mem_replicate, by rw [run_solo_add h1 n]; exact hres⟩
    | none =>
      rw [hfind] at hres
      -- the state the walk ends in differs from `s` in the thread list only
      obtain ⟨m, hm⟩ := solo_grow { s with ts := [{ pc := .growCap x, todo := rest }] } x rest (by omega) rfl
      exact ⟨_, fun _ => List.eq_of_mem_replicate, by rw [run_solo_add h1 (n + m), run_solo_add hres m]; exact hm⟩

end

end Lasso.CA
