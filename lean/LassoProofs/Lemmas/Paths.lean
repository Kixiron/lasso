import LassoProofs.Lemmas.History
/-
  The resolution paths (checked, fallible, unchecked / indexing, iteration) all read `strAt`.
-/
namespace Lasso

theorem iterIn_spec (env : Env) (read : Loc → Option Bytes) (N : Nat) (ss : List StrRef) (i : Nat)
    (hN : i + ss.length ≤ N) (hc : ∀ ref ∈ ss, ∃ y, contentOf env read ref = some y) :
    ∃ l, iterIn env read N ss i = .ok l ∧ l.length = ss.length ∧
      ∀ j y, strAt env read ss j = some y → l[j]? = some (i + j, y) := by
  induction ss generalizing i with
  | nil => exact ⟨[], rfl, rfl, by intro j y h; simp [strAt] at h⟩
  | cons r rest ih =>
    obtain ⟨y0, hy0⟩ := hc r (by simp)
    simp only [List.length_cons] at hN
    obtain ⟨l, hl, hlen, hget⟩ := ih (i + 1) (by omega) (fun ref hr => hc ref (by simp [hr]))
    have hk : keyOfIndex N i = some (i + 1) := by simp [keyOfIndex]; omega
    refine ⟨(i, y0) :: l, ?_, by simp [hlen], ?_⟩
    · simp only [iterIn, hk, hy0, hl]
    · intro j y hj
      cases j with
      | zero =>
        simp only [strAt, List.getElem?_cons_zero] at hj
        rw [hy0] at hj; injection hj with hj; subst hj; simp
      | succ j' =>
        have : strAt env read rest j' = some y := by simpa [strAt] using hj
        have := hget j' y this
        simp only [List.getElem?_cons_succ, this]
        congr 2; omega

/-- Iteration yields `(k, string of key k)` at position `k`, for every key. -/
theorem Rodeo.iter_spec {env : Env} {r : Rodeo} (h : r.Inv env) :
    ∃ l, r.iter env = .ok l ∧ l.length = r.strings.length ∧ ∀ k x, r.str env k = some x → l[k]? = some (k, x) := by
  obtain ⟨l, h1, h2, h3⟩ := iterIn_spec env r.arena.read r.N r.strings 0 (by have := h.lenLe; omega) h.content_some
  exact ⟨l, h1, h2, fun k x hk => by simpa using h3 k x hk⟩

/-- In a well-formed interner every resolution path returns the bytes `str` denotes. -/
theorem Rodeo.paths {env : Env} {r : Rodeo} (h : r.Inv env) (k : Nat) (x : Bytes) (hk : r.str env k = some x) :
    r.resolve env k = .ok x ∧ r.tryResolve env k = .ok (some x) ∧ r.resolveUnchecked env k = .ok x ∧
    ∃ l, r.iter env = .ok l ∧ l.length = r.strings.length ∧ l[k]? = some (k, x) := by
  have hl := Rodeo.Inv.str_lt hk
  have hk' : strAt env r.arena.read r.strings k = some x := hk
  obtain ⟨l, h1, h2, h3⟩ := Rodeo.iter_spec h
  exact ⟨by simp [Rodeo.resolve, resolveIn, hl, hk'], by simp [Rodeo.tryResolve, tryResolveIn, hl, hk'],
    by simp [Rodeo.resolveUnchecked, resolveUncheckedIn, hk'], l, h1, h2, h3 k x hk⟩

/-- Keys that were never minted are unknown to the safe paths (and `resolve` panics, as documented). -/
theorem Rodeo.unknown_key (env : Env) (r : Rodeo) (k : Nat) (hk : r.strings.length ≤ k) :
    r.resolve env k = .panic ∧ r.tryResolve env k = .ok none ∧ r.containsKey k = false := by
  have : ¬ k < r.strings.length := by omega
  simp [Rodeo.resolve, resolveIn, Rodeo.tryResolve, tryResolveIn, Rodeo.containsKey, this]

/-- No resolution path of a well-formed interner faults, whatever the key. -/
theorem Rodeo.paths_safe {env : Env} {r : Rodeo} (h : r.Inv env) (k : Nat) (f : Fault) :
    r.resolve env k ≠ .fault f ∧ r.tryResolve env k ≠ .fault f ∧ r.iter env ≠ .fault f := by
  obtain ⟨l, hl, _⟩ := Rodeo.iter_spec h
  by_cases hk : k < r.strings.length
  · obtain ⟨y, hy⟩ := h.str_total k hk
    obtain ⟨a, b, _⟩ := Rodeo.paths h k y hy
    simp [a, b, hl]
  · obtain ⟨a, b, _⟩ := Rodeo.unknown_key env r k (by omega)
    simp [a, b, hl]

end Lasso
