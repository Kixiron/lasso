import LassoModel.Conc
import LassoModel.Source
/-
  The transitions of the interleaving machine are the source's effectful operations, in the source's
  order (`C03.steps_are_source_operations`).  `Extracted.internEffects` / `internStaticEffects` are regenerated
  from the bodies of `ThreadedRodeo::try_get_or_intern` / `try_get_or_intern_static` on every run (evaluation order).
-/
namespace Lasso.Conc
open Lasso Lasso.Source

/-- The source operations performed by the step a thread takes from program counter `pc`
(`st`: the call is `try_get_or_intern_static`). -/
def effectsOfStep : PC → List Effect
  | .idle => [.fastGet]
  | .wantLock _ false => [.lockShard, .recheck]
  | .wantLock _ true => [.lockEntry]
  | .locked _ true => [.store]
  | .locked _ false => [.keyFetch, .keyCheck]
  | .haveKey _ _ => [.stringsInsert]
  | .inserted _ _ => [.mapInsert]

/-- The program counters a thread goes through, recorded before each of its steps. -/
def pcsAlong (sh : Bytes → Nat) (N : Nat) (s : CS) (t : Nat) : Nat → List PC
  | 0 => []
  | n + 1 =>
    match s.ts[t]? with
    | none => []
    | some th =>
      match step sh N s t with
      | some s' => th.pc :: pcsAlong sh N s' t n
      | none => []

end Lasso.Conc
