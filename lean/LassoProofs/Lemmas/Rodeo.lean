import LassoProofs.Lemmas.Arena
import LassoProofs.Lemmas.Table
/-
  The invariant of `Rodeo` and what each operation does to it.
-/
namespace Lasso
set_option linter.unusedSimpArgs false

theorem strAt_append (env : Env) (read : Loc → Option Bytes) (ss : List StrRef) (ref : StrRef) (k : Nat) :
    strAt env read (ss ++ [ref]) k =
      if k < ss.length then strAt env read ss k
      else if k = ss.length then contentOf env read ref else none := by
  unfold strAt
  by_cases h : k < ss.length
  · simp [h, List.getElem?_append_left h]
  · by_cases h2 : k = ss.length
    · subst h2; simp
    · have : ss.length + 1 ≤ k := by omega
      simp [h, h2, List.getElem?_eq_none (l := ss ++ [ref]) (by simp; omega)]

theorem strAt_lt {env : Env} {read : Loc → Option Bytes} {ss : List StrRef} {k : Nat} {y : Bytes}
    (h : strAt env read ss k = some y) : k < ss.length := by
  unfold strAt at h
  cases hk : ss[k]? with
  | none => simp [hk] at h
  | some r => exact (List.getElem?_eq_some_iff.mp hk).1

/-- The invariant of the single-threaded interner. -/
structure Rodeo.Inv (env : Env) (r : Rodeo) : Prop where
  wf : r.arena.WF
  valid : ∀ loc, StrRef.arena loc ∈ r.strings → r.arena.valid loc ∧ loc.len ≠ 0
  statics : ∀ i, StrRef.static i ∈ r.strings → i < env.pool.length
  disjoint : r.strings.Pairwise (fun a b => ∀ l m, a = .arena l → b = .arena m → l.disjoint m)
  tinv : TInv env.hash (r.str env) r.strings.length r.table
  distinct : ∀ i j y, r.str env i = some y → r.str env j = some y → i = j
  lenLe : r.strings.length ≤ r.N

theorem Rodeo.new_inv (env : Env) (N cap max : Nat) (h : 0 < cap) : (Rodeo.new N cap max).Inv env := by
  constructor <;> simp [Rodeo.new, Arena.new_wf _ _ h, Rodeo.str, strAt]
  · exact TInv.empty _ _

/-- Every reference held by a well-formed interner has content. -/
theorem Rodeo.Inv.content_some {env : Env} {r : Rodeo} (h : r.Inv env) (ref : StrRef) (hm : ref ∈ r.strings) :
    ∃ y, contentOf env r.arena.read ref = some y := by
  cases ref with
  | arena loc =>
    obtain ⟨hv, _⟩ := h.valid loc hm
    exact (Arena.valid_iff_read h.wf loc).mp hv
  | static i =>
    have := h.statics i hm
    exact ⟨env.pool[i], by simp [contentOf, this]⟩
  | empty => exact ⟨[], rfl⟩

theorem Rodeo.Inv.str_total {env : Env} {r : Rodeo} (h : r.Inv env) (k : Nat) (hk : k < r.strings.length) :
    ∃ y, r.str env k = some y := by
  unfold Rodeo.str strAt
  have : r.strings[k]? = some r.strings[k] := List.getElem?_eq_getElem hk
  rw [this]
  exact h.content_some _ (List.getElem_mem hk)

theorem Rodeo.Inv.str_lt {env : Env} {r : Rodeo} {k : Nat} {y : Bytes} (hs : r.str env k = some y) :
    k < r.strings.length := strAt_lt hs

/-- Over a placed, covering table with pairwise distinct strings the lookup never faults and answers exactly
"which key holds `x`" (interner and reader alike). -/
theorem tableFind_exact {env : Env} {read : Loc → Option Bytes} {ss : List StrRef} {t : Table}
    (hi : TInv env.hash (strAt env read ss) ss.length t)
    (hd : ∀ i j y, strAt env read ss i = some y → strAt env read ss j = some y → i = j) (x : Bytes) :
    ∃ o, tableFind env read ss t x = .ok o ∧ ∀ k, o = some k ↔ strAt env read ss k = some x :=
  ⟨_, tableFind_eq env read ss t x hi.bound, tfind_spec x hi (fun _ _ hs => strAt_lt hs) hd⟩

theorem Rodeo.get_spec {env : Env} {r : Rodeo} (h : r.Inv env) (x : Bytes) :
    ∃ o, r.get env x = .ok o ∧ ∀ k, o = some k ↔ r.str env k = some x :=
  tableFind_exact h.tinv h.distinct x


theorem contentOf_mono {env : Env} {read read' : Loc → Option Bytes}
    (hm : ∀ l y, read l = some y → read' l = some y) {ref : StrRef} {y : Bytes}
    (h : contentOf env read ref = some y) : contentOf env read' ref = some y := by
  cases ref <;> simp_all [contentOf]

theorem strAt_mono {env : Env} {read read' : Loc → Option Bytes}
    (hm : ∀ l y, read l = some y → read' l = some y) {ss : List StrRef} {k : Nat} {y : Bytes}
    (h : strAt env read ss k = some y) : strAt env read' ss k = some y := by
  unfold strAt at *
  cases hk : ss[k]? with
  | none => simp [hk] at h
  | some r => simp only [hk] at h ⊢; exact contentOf_mono hm h

/-! ### Pushing a new string

Both interning functions, the clone loop and the deserialisers push a reference `ref` that denotes a new
string `x` over an arena `a'` in which everything old still reads the same.  `FreshRef` says what such a
reference has to satisfy; a successful `store` of either arena provides one (`Stores.freshRef`), and so does
a pool string (`FreshRef.static_ref`). -/

/-- `ref` denotes `x` under `read'`, which extends `read`; if it is an arena location it is non-empty, valid
and disjoint from everything valid before; if it is a pool string it exists. -/
structure FreshRef (env : Env) (valid valid' : Loc → Prop) (read read' : Loc → Option Bytes) (x : Bytes)
    (ref : StrRef) : Prop where
  mono : ∀ l y, read l = some y → read' l = some y
  content : contentOf env read' ref = some x
  loc : ∀ loc, ref = .arena loc → valid' loc ∧ loc.len ≠ 0 ∧ ∀ l, valid l → l.disjoint loc
  static : ∀ i, ref = .static i → i < env.pool.length

theorem FreshRef.static_ref {env : Env} {valid : Loc → Prop} {read : Loc → Option Bytes} {i : Nat} {x : Bytes}
    (hp : env.pool[i]? = some x) : FreshRef env valid valid read read x (.static i) :=
  ⟨fun _ _ h => h, hp, (fun _ h => nomatch h), fun _ h => by cases h; exact (List.getElem?_eq_some_iff.mp hp).1⟩

theorem FreshRef.empty_ref {env : Env} {valid : Loc → Prop} {read : Loc → Option Bytes} :
    FreshRef env valid valid read read [] .empty :=
  ⟨fun _ _ h => h, rfl, (fun _ h => nomatch h), fun _ h => nomatch h⟩

theorem Stores.freshRef {s : Bytes} {bs bs' : List Bucket} {n n' d : Nat} {loc : Loc} (env : Env)
    (h : Stores s bs n bs' n' loc d) (hw : BlocksWF bs n) (h0 : s.length ≠ 0) :
    FreshRef env (validIn bs) (validIn bs') (readIn bs) (readIn bs') s (.arena loc) := by
  refine ⟨fun _ _ => h.read_old hw, h.read_new hw, ?_, fun _ h => nomatch h⟩
  rintro _ ⟨⟩
  exact ⟨(validIn_iff_read (h.wf hw).ids loc).mpr ⟨s, h.read_new hw⟩, by rw [h.len]; exact h0, fun l => h.disjoint hw⟩

/-- What the interner needs of a successful `store`. -/
theorem Arena.store_fresh {a a' : Arena} {x : Bytes} {ref : StrRef} (env : Env) (h : a.WF)
    (hs : a.store x = .ok (a', ref)) :
    a'.WF ∧ a'.max = a.max ∧ FreshRef env a.valid a'.valid a.read a'.read x ref := by
  refine ⟨Arena.store_wf h hs, (Arena.store_usage hs).1, ?_⟩
  rcases Arena.store_ok hs with ⟨h0, rfl, rfl⟩ | ⟨h0, _, _, rfl, hst, _⟩
  · rw [List.eq_nil_of_length_eq_zero h0]; exact .empty_ref
  · exact hst.freshRef env h.blocks h0

/-- The state after the push and the table insert of a successful intern of a new string. -/
def Rodeo.pushed (env : Env) (r : Rodeo) (x : Bytes) (a' : Arena) (ref : StrRef) : Rodeo :=
  { r with table := r.table ++ [(env.hash x, r.strings.length)], strings := r.strings ++ [ref], arena := a' }

/-- What a successful insertion of a new string produces. -/
structure Rodeo.Pushed (env : Env) (r r' : Rodeo) (x : Bytes) (ref : StrRef) : Prop where
  inv : r'.Inv env
  sameN : r'.N = r.N
  strings : r'.strings = r.strings ++ [ref]
  newStr : r'.str env r.strings.length = some x
  old : ∀ j y, r.str env j = some y → r'.str env j = some y
  maxSame : r'.arena.max = r.arena.max

/-- Over an arena that preserves old reads every old key has its string after a push. -/
theorem Rodeo.strAt_push {env : Env} {r : Rodeo} (h : r.Inv env) {a' : Arena} (ref : StrRef)
    (hmono : ∀ l y, r.arena.read l = some y → a'.read l = some y) {k : Nat} (hk : k < r.strings.length) :
    strAt env a'.read (r.strings ++ [ref]) k = r.str env k := by
  obtain ⟨y, hy⟩ := h.str_total k hk
  rw [strAt_append, if_pos hk, hy]; exact strAt_mono hmono hy

/-- The key → string function after a push: the old one, with the new key denoting `x`. -/
theorem Rodeo.pushed_str {env : Env} {r : Rodeo} (h : r.Inv env) {a' : Arena} {ref : StrRef} {x : Bytes}
    (hmono : ∀ l y, r.arena.read l = some y → a'.read l = some y) (hc : contentOf env a'.read ref = some x) (k : Nat) :
    (r.pushed env x a' ref).str env k = if k = r.strings.length then some x else r.str env k := by
  by_cases hk : k < r.strings.length
  · rw [if_neg (Nat.ne_of_lt hk)]; exact Rodeo.strAt_push h ref hmono hk
  · have hn : r.str env k = none := Option.eq_none_iff_forall_ne_some.mpr fun y hy => hk (Rodeo.Inv.str_lt hy)
    simp only [Rodeo.pushed, Rodeo.str, strAt_append, hk, ↓reduceIte, hc]
    split
    · rfl
    · exact hn.symm

/-- Pushing a fresh reference to a new string, below the key capacity, keeps the invariant. -/
theorem Rodeo.push_inv {env : Env} {r : Rodeo} (h : r.Inv env) {a' : Arena} {ref : StrRef} {x : Bytes}
    (hwf : a'.WF) (hmax : a'.max = r.arena.max) (hf : FreshRef env r.arena.valid a'.valid r.arena.read a'.read x ref)
    (hnew : ∀ k, r.str env k ≠ some x) (hlen : r.strings.length < r.N) :
    Rodeo.Pushed env r (r.pushed env x a' ref) x ref := by
  have hstr := Rodeo.pushed_str h hf.mono hf.content
  have hS : ∀ k, k < r.strings.length → (r.pushed env x a' ref).str env k = r.str env k :=
    fun k hk => by rw [hstr, if_neg (Nat.ne_of_lt hk)]
  have hSn : (r.pushed env x a' ref).str env r.strings.length = some x := by rw [hstr, if_pos rfl]
  refine ⟨?_, rfl, rfl, hSn, fun j y hj => by rw [hS j (Rodeo.Inv.str_lt hj)]; exact hj, hmax⟩
  constructor
  · exact hwf
  · intro loc hm
    rcases List.mem_append.mp hm with hm | hm
    · obtain ⟨hv, hl⟩ := h.valid loc hm
      obtain ⟨y, hy⟩ := (Arena.valid_iff_read h.wf loc).mp hv
      exact ⟨(Arena.valid_iff_read hwf loc).mpr ⟨y, hf.mono _ _ hy⟩, hl⟩
    · obtain ⟨hv, hl, _⟩ := hf.loc loc (List.mem_singleton.mp hm).symm
      exact ⟨hv, hl⟩
  · intro i hm
    rcases List.mem_append.mp hm with hm | hm
    · exact h.statics i hm
    · exact hf.static i (List.mem_singleton.mp hm).symm
  · refine List.pairwise_append.mpr ⟨h.disjoint, List.pairwise_singleton .., ?_⟩
    intro a ha b hb l m hl hm
    rw [List.mem_singleton.mp hb] at hm
    subst hl
    exact (hf.loc m hm).2.2 l (h.valid l ha).1
  · simpa [Rodeo.pushed] using TInv.push (x := x) h.tinv hS hSn
  · exact distinct_push hstr h.distinct hnew
  · simp [Rodeo.pushed]; omega

theorem Rodeo.get_eq {env : Env} {r : Rodeo} (h : r.Inv env) (x : Bytes) :
    r.get env x = .ok (tfind env.hash (r.str env) r.table x) :=
  tableFind_eq env r.arena.read r.strings r.table x h.tinv.bound

theorem Rodeo.tfind_none {env : Env} {r : Rodeo} (h : r.Inv env) {x : Bytes}
    (hf : tfind env.hash (r.str env) r.table x = none) (k : Nat) : r.str env k ≠ some x :=
  fun hk => Lasso.tfind_none h.tinv hf k (Rodeo.Inv.str_lt hk) hk

theorem tfind_congr {hash : Bytes → UInt64} {S S' : Nat → Option Bytes} {t : Table} (x : Bytes)
    (h : ∀ e ∈ t, S e.2 = S' e.2) : tfind hash S t x = tfind hash S' t x := by
  unfold tfind
  congr 1
  induction t with
  | nil => rfl
  | cons e rest ih =>
    simp only [List.find?_cons]
    rw [h e (by simp), ih (fun e' he' => h e' (by simp [he']))]

/-- Over such an arena the lookup answers as it did, over the old vector (the deserialisers look before they
push) and over the pushed one (`clone_strings_into` pushes first). -/
theorem Rodeo.find_mono {env : Env} {r : Rodeo} (h : r.Inv env) {a' : Arena}
    (hmono : ∀ l y, r.arena.read l = some y → a'.read l = some y) (x : Bytes) :
    tableFind env a'.read r.strings r.table x = .ok (tfind env.hash (r.str env) r.table x) := by
  rw [tableFind_eq env a'.read r.strings r.table x h.tinv.bound, tfind_congr (S' := r.str env) x fun e he => by
    obtain ⟨y, hy⟩ := h.str_total e.2 (h.tinv.bound e he)
    rw [hy]; exact strAt_mono hmono hy]

theorem Rodeo.find_push {env : Env} {r : Rodeo} (h : r.Inv env) {a' : Arena} (ref : StrRef)
    (hmono : ∀ l y, r.arena.read l = some y → a'.read l = some y) (x : Bytes) :
    tableFind env a'.read (r.strings ++ [ref]) r.table x = .ok (tfind env.hash (r.str env) r.table x) := by
  rw [tableFind_eq env a'.read (r.strings ++ [ref]) r.table x (fun e he => by have := h.tinv.bound e he; simp; omega),
    tfind_congr x fun e he => Rodeo.strAt_push h ref hmono (h.tinv.bound e he)]

/-- The insert with the source's rehash closure (over the *new* vector) cannot fail and re-places nothing. -/
theorem Rodeo.insert_push {env : Env} {r : Rodeo} (h : r.Inv env) {a' : Arena} (ref : StrRef)
    (hmono : ∀ l y, r.arena.read l = some y → a'.read l = some y) (hx : UInt64) (grow : Bool) :
    tableInsert r.table hx r.strings.length grow (rehashFn env a'.read (r.strings ++ [ref]))
      = .ok (r.table ++ [(hx, r.strings.length)]) :=
  tableInsert_ok (hash := env.hash) (S := strAt env a'.read (r.strings ++ [ref]))
    (fun e he => by rw [Rodeo.strAt_push h ref hmono (h.tinv.bound e he)]; exact h.tinv.placed e he) hx _ grow

/-! ### The two interning functions

Once the invariant rules out the table faults both are the same function `findOr` of what is to be pushed:
the result of `store` for the copying entry point, the pool reference itself for the static one. -/

/-- Look `x` up; if absent and there is a key left, push what `new` provides. -/
def Rodeo.findOr (env : Env) (r : Rodeo) (x : Bytes) (new : Out (Arena × StrRef)) : Out (Rodeo × Nat) :=
  match tfind env.hash (r.str env) r.table x with
  | some k => .ok (r, k)
  | none =>
    if r.strings.length < r.N then new.map fun p => (r.pushed env x p.1 p.2, r.strings.length)
    else .err .keySpace

theorem Rodeo.tryIntern_eq {env : Env} {r : Rodeo} (h : r.Inv env) (x : Bytes) (grow : Bool) :
    r.tryIntern env x grow = r.findOr env x (r.arena.store x) := by
  unfold Rodeo.tryIntern Rodeo.findOr
  rw [Rodeo.get_eq h]
  cases tfind env.hash (r.str env) r.table x with
  | some k => rfl
  | none =>
    by_cases hlt : r.strings.length < r.N <;> simp only [keyOfIndex, hlt, ↓reduceIte]
    cases hst : r.arena.store x with
    | ok p => simp only [Rodeo.insert_push h p.2 (Arena.store_read_old h.wf hst)]; rfl
    | _ => rfl

theorem Rodeo.tryInternStatic_eq {env : Env} {r : Rodeo} (h : r.Inv env) {i : Nat} {x : Bytes}
    (hp : env.pool[i]? = some x) (grow : Bool) :
    r.tryInternStatic env i grow = r.findOr env x (.ok (r.arena, .static i)) := by
  unfold Rodeo.tryInternStatic Rodeo.findOr
  simp only [hp]
  rw [Rodeo.get_eq h]
  cases tfind env.hash (r.str env) r.table x with
  | some k => rfl
  | none =>
    by_cases hlt : r.strings.length < r.N <;> simp only [keyOfIndex, hlt, ↓reduceIte]
    simp only [Rodeo.insert_push h (.static i) (fun _ _ h => h)]; rfl

/-- A successful `findOr`: the string was there and nothing changed, or it was new and has been pushed
under the next key. -/
theorem Rodeo.findOr_ok {env : Env} {r r' : Rodeo} (h : r.Inv env) {x : Bytes} {new : Out (Arena × StrRef)} {k : Nat}
    (hnew : ∀ a' ref, new = .ok (a', ref) →
      a'.WF ∧ a'.max = r.arena.max ∧ FreshRef env r.arena.valid a'.valid r.arena.read a'.read x ref)
    (he : r.findOr env x new = .ok (r', k)) :
    (r' = r ∧ r.str env k = some x) ∨
    (k = r.strings.length ∧ (∀ j, r.str env j ≠ some x) ∧
      ∃ ref, new = .ok (r'.arena, ref) ∧ Rodeo.Pushed env r r' x ref) := by
  unfold Rodeo.findOr at he
  split at he
  next j hf => cases he; exact .inl ⟨rfl, (tfind_some hf).1⟩
  next hf =>
    split at he
    next hlt =>
      cases new with
      | ok p =>
        cases he
        obtain ⟨hwf, hmax, hfr⟩ := hnew p.1 p.2 rfl
        exact .inr ⟨rfl, Rodeo.tfind_none h hf, p.2, rfl, Rodeo.push_inv h hwf hmax hfr (Rodeo.tfind_none h hf) hlt⟩
      | _ => cases he
    · cases he

/-- Which outcome `findOr` has in which state. -/
theorem Rodeo.findOr_total {env : Env} {r : Rodeo} (h : r.Inv env) (x : Bytes) (new : Out (Arena × StrRef)) :
    (∃ k, r.str env k = some x ∧ r.findOr env x new = .ok (r, k)) ∨
    ((∀ k, r.str env k ≠ some x) ∧
      ((r.strings.length = r.N ∧ r.findOr env x new = .err .keySpace) ∨
       (r.strings.length < r.N ∧
          r.findOr env x new = new.map fun p => (r.pushed env x p.1 p.2, r.strings.length)))) := by
  unfold Rodeo.findOr
  cases hf : tfind env.hash (r.str env) r.table x with
  | some k => exact .inl ⟨k, (tfind_some hf).1, rfl⟩
  | none =>
    refine .inr ⟨Rodeo.tfind_none h hf, ?_⟩
    by_cases hlt : r.strings.length < r.N
    · exact .inr ⟨hlt, by simp [hlt]⟩
    · exact .inl ⟨by have := h.lenLe; omega, by simp [hlt]⟩

theorem Rodeo.tryIntern_ok {env : Env} {r r' : Rodeo} (h : r.Inv env) {x : Bytes} {g : Bool} {k : Nat}
    (he : r.tryIntern env x g = .ok (r', k)) :
    (r' = r ∧ r.str env k = some x) ∨
    (k = r.strings.length ∧ (∀ j, r.str env j ≠ some x) ∧
      ∃ ref, r.arena.store x = .ok (r'.arena, ref) ∧ Rodeo.Pushed env r r' x ref) :=
  Rodeo.findOr_ok h (fun _ _ hs => Arena.store_fresh env h.wf hs) (Rodeo.tryIntern_eq h x g ▸ he)

theorem Rodeo.tryInternStatic_ok {env : Env} {r r' : Rodeo} (h : r.Inv env) {i : Nat} {x : Bytes}
    (hp : env.pool[i]? = some x) {g : Bool} {k : Nat} (he : r.tryInternStatic env i g = .ok (r', k)) :
    (r' = r ∧ r.str env k = some x) ∨
    (k = r.strings.length ∧ (∀ j, r.str env j ≠ some x) ∧ r'.arena = r.arena ∧
      Rodeo.Pushed env r r' x (.static i)) := by
  rcases Rodeo.findOr_ok h (fun _ _ hs => by cases hs; exact ⟨h.wf, rfl, .static_ref hp⟩)
    (Rodeo.tryInternStatic_eq h hp g ▸ he) with hq | ⟨hk, hn, _, hs, hpu⟩
  · exact .inl hq
  · simp only [Out.ok.injEq, Prod.mk.injEq] at hs
    obtain ⟨ha, rfl⟩ := hs
    exact .inr ⟨hk, hn, ha.symm, hpu⟩

/-- `findOr` faults or panics only if what it is given does. -/
theorem Rodeo.findOr_safe (env : Env) (r : Rodeo) (x : Bytes) {new : Out (Arena × StrRef)}
    (hf : ∀ f, new ≠ .fault f) (hp : new ≠ .panic) :
    (∀ f, r.findOr env x new ≠ .fault f) ∧ r.findOr env x new ≠ .panic := by
  unfold Rodeo.findOr
  split
  · simp
  · split
    · cases new <;> simp_all [Out.map]
    · simp

/-- A string that is present is found, whatever else holds. -/
theorem Rodeo.findOr_present {env : Env} {r : Rodeo} (h : r.Inv env) {x : Bytes} {k : Nat}
    (hk : r.str env k = some x) (new : Out (Arena × StrRef)) : r.findOr env x new = .ok (r, k) := by
  unfold Rodeo.findOr
  rw [(tfind_spec x h.tinv (fun _ _ hs => Rodeo.Inv.str_lt hs) h.distinct k).mpr hk]

/-- What every caller with a key in hand needs: the new state is well-formed, the key denotes the string,
and every older key denotes what it did. -/
structure Rodeo.Minted (env : Env) (r r' : Rodeo) (x : Bytes) (k : Nat) : Prop where
  inv : r'.Inv env
  str : r'.str env k = some x
  old : ∀ j y, r.str env j = some y → r'.str env j = some y

theorem Rodeo.tryIntern_minted {env : Env} {r r' : Rodeo} (h : r.Inv env) {x : Bytes} {g : Bool} {k : Nat}
    (he : r.tryIntern env x g = .ok (r', k)) : Rodeo.Minted env r r' x k := by
  rcases Rodeo.tryIntern_ok h he with ⟨rfl, hk⟩ | ⟨rfl, _, _, _, hp⟩
  · exact ⟨h, hk, fun _ _ h => h⟩
  · exact ⟨hp.inv, hp.newStr, hp.old⟩

theorem Rodeo.tryInternStatic_minted {env : Env} {r r' : Rodeo} (h : r.Inv env) {i : Nat} {x : Bytes}
    (hp : env.pool[i]? = some x) {g : Bool} {k : Nat} (he : r.tryInternStatic env i g = .ok (r', k)) :
    Rodeo.Minted env r r' x k := by
  rcases Rodeo.tryInternStatic_ok h hp he with ⟨rfl, hk⟩ | ⟨rfl, _, _, hp⟩
  · exact ⟨h, hk, fun _ _ h => h⟩
  · exact ⟨hp.inv, hp.newStr, hp.old⟩

theorem Arena.clear_wf {a : Arena} (h : a.WF) : a.clear.WF := by
  obtain ⟨h1, h2, h3, h4, h5⟩ := h
  constructor
  · intro b hb
    simp only [Arena.clear, Arena.all, List.mem_cons, List.mem_map, Bucket.clear] at hb
    rcases hb with rfl | ⟨c, _, rfl⟩ <;> simp
  · simpa [Arena.clear, Arena.all, Bucket.clear, List.map_map, Function.comp_def] using h2
  · intro b hb
    simp only [Arena.clear, Arena.all, List.mem_cons, List.mem_map, Bucket.clear] at hb
    rcases hb with rfl | ⟨c, hc, rfl⟩
    · exact h3 a.cur (by simp [Arena.all])
    · exact h3 c (by simp [Arena.all, hc])
  · simpa [Arena.clear, Arena.all, Bucket.clear, sumCaps, List.map_map, Function.comp_def] using h4
  · exact h5

/-- `clear` yields a valid empty interner whatever the history before it. -/
theorem Rodeo.clear_inv {env : Env} {r : Rodeo} (h : r.Inv env) : r.clear.Inv env := by
  constructor <;> simp [Rodeo.clear, Arena.clear_wf h.wf, Rodeo.str, strAt]
  · exact TInv.empty _ _

theorem Rodeo.setLimit_inv {env : Env} {r : Rodeo} (h : r.Inv env) (m : Nat) : (r.setLimit m).Inv env := by
  obtain ⟨h1, h2, h3, h4, h5, h6, h7⟩ := h
  have hwf : ({ r.arena with max := m } : Arena).WF := by
    obtain ⟨a1, a2, a3, a4, a5⟩ := h1
    exact ⟨a1, a2, a3, a4, a5⟩
  exact ⟨hwf, h2, h3, h4, h5, h6, h7⟩

end Lasso
