import LassoProofs.Lemmas.ConcArena
/-
  History facts about the arena machine: what one step may do to the block list and the log, and what
  follows for every continuation of a schedule (results stay, blocks stay, the walk order of published
  blocks never changes, every successful call was given a different region).
-/
namespace Lasso.CA
open Lasso

/-- What one step may do to the block list and the log. -/
structure Shape (s s' : AS) (t : Nat) : Prop where
  blocks : s'.buckets = s.buckets ∨
    (∃ (b : Nat) (f : ABucket → ABucket), (∀ k, (f k).id = k.id ∧ (f k).cap = k.cap) ∧ s'.buckets = updB s.buckets b f) ∨
    (∃ (th : AThread) (x : Bytes) (nb : ABucket), s.ts[t]? = some th ∧ ownsB th.pc = some (x, nb) ∧ s'.buckets = nb :: s.buckets)
  log : s'.log = s.log ∨ (∃ x, s'.log = (t, x, .empty) :: s.log) ∨ (∃ x, s'.log = (t, x, .err) :: s.log) ∨
    (∃ (th : AThread) (x : Bytes) (b off : Nat), s.ts[t]? = some th ∧ th.pc = .copy x b off ∧ s'.log = (t, x, .ok b off) :: s.log) ∨
    (∃ (th : AThread) (x : Bytes) (nb : ABucket) (hd : Option Nat), s.ts[t]? = some th ∧ th.pc = .pushCas x nb hd ∧
      s'.log = (t, x, .ok nb.id 0) :: s.log ∧ s'.buckets = nb :: s.buckets)

variable {cap0 : Nat} {s s' : AS} {t : Nat} {sp : Bool}

theorem step_shape (hs : step s t sp = some s') : Shape s s' t := by
  obtain ⟨th, ht, k⟩ := step_cases hs
  cases k with
  | move new lg bc _ _ _ hlg =>
    refine ⟨.inl rfl, ?_⟩
    rcases hlg with rfl | ⟨x, r, rfl, rfl | rfl⟩
    · exact .inl rfl
    · exact .inr (.inl ⟨x, rfl⟩)
    · exact .inr (.inr (.inl ⟨x, rfl⟩))
  | cas => exact ⟨.inr (.inl ⟨_, _, by exact fun _ => ⟨rfl, rfl⟩, rfl⟩), .inl rfl⟩
  | copy hpc => exact ⟨.inr (.inl ⟨_, _, by exact fun _ => ⟨rfl, rfl⟩, rfl⟩), .inr (.inr (.inr (.inl ⟨th, _, _, _, ht, hpc, rfl⟩)))⟩
  | alloc => exact ⟨.inl rfl, .inl rfl⟩
  | allocZero => exact ⟨.inl rfl, .inr (.inr (.inl ⟨_, rfl⟩))⟩
  | push hpc =>
    exact ⟨.inr (.inr ⟨th, _, _, ht, by rw [hpc]; rfl, rfl⟩), .inr (.inr (.inr (.inr ⟨th, _, _, _, ht, hpc, rfl, rfl⟩)))⟩

/-- No two entries of the log name the same region. -/
def LogNd (s : AS) : Prop := s.log.Pairwise fun e1 e2 => ∀ b o, e1.2.2 = .ok b o → e2.2.2 ≠ .ok b o

/-- A new entry keeps the regions distinct if no earlier entry was given its region. -/
theorem logNd_cons (hn : LogNd s) {e : Nat × Bytes × ARes} (hlog : s'.log = e :: s.log)
    (hnew : ∀ e0 ∈ s.log, ∀ b o, e.2.2 = .ok b o → e0.2.2 ≠ .ok b o) : LogNd s' := by
  unfold LogNd
  rw [hlog]
  exact List.pairwise_cons.mpr ⟨hnew, hn⟩

theorem step_logNd (h : AInv cap0 s) (hn : LogNd s)
    (hs : step s t sp = some s') : LogNd s' := by
  rcases (step_shape hs).log with e | ⟨x, e⟩ | ⟨x, e⟩ | ⟨th, x, b, off, ht, hpc, e⟩ | ⟨th, x, nb, hd, ht, hpc, e, _⟩
  · unfold LogNd; rw [e]; exact hn
  · exact logNd_cons hn e nofun
  · exact logNd_cons hn e nofun
  · -- the claim was open until this step
    obtain ⟨bk, hbk, rfl, hc⟩ := (h.pcOk t th ht).copyClaim x b off (by rw [hpc]; rfl)
    refine logNd_cons hn e ?_
    rintro e0 he0 _ _ ⟨⟩
    exact h.open_unlogged hbk hc rfl e0 he0
  · -- the block was unpublished until this step
    refine logNd_cons hn e ?_
    rintro e0 he0 _ _ ⟨⟩ hr
    obtain ⟨bk, hbk, hid, _⟩ := (logged_ok hr).1 (h.logOk e0 he0)
    exact ((h.pcOk t th ht).ownOk x nb (by rw [hpc]; rfl)).2.2.2.1 bk hbk hid

theorem step_log_suffix (hs : step s t sp = some s') : s.log <:+ s'.log := by
  rcases (step_shape hs).log with e | ⟨x, e⟩ | ⟨x, e⟩ | ⟨th, x, b, off, ht, hpc, e⟩ | ⟨th, x, nb, hd, ht, hpc, e, _⟩ <;> rw [e]
  · exact List.suffix_refl _
  all_goals exact List.suffix_cons _ _

theorem run_log_suffix (sched : List (Nat × Bool)) (s : AS) : s.log <:+ (run s sched).log :=
  run_induct (P := fun s' => s.log <:+ s'.log) (fun h hs => h.trans (step_log_suffix hs)) sched (List.suffix_refl _)

theorem run_induct_inv {P : AS → Prop}
    (hstep : ∀ {s s' : AS} {t : Nat} {sp : Bool}, AInv cap0 s → P s → step s t sp = some s' → P s')
    (sched : List (Nat × Bool)) (h : AInv cap0 s) (h0 : P s) : P (run s sched) :=
  (run_induct (P := fun s => AInv cap0 s ∧ P s) (fun h hs => ⟨step_inv h.1 hs, hstep h.1 h.2 hs⟩) sched ⟨h, h0⟩).2

theorem run_logNd (sched : List (Nat × Bool)) (h : AInv cap0 s) (hn : LogNd s) : LogNd (run s sched) :=
  run_induct_inv step_logNd sched h hn

/-- Every published block is still published (same identity, same capacity). -/
def Keeps (s s' : AS) : Prop := ∀ b ∈ s.buckets, ∃ b' ∈ s'.buckets, b'.id = b.id ∧ b'.cap = b.cap

theorem Keeps.refl (s : AS) : Keeps s s := fun b hb => ⟨b, hb, rfl, rfl⟩

theorem Keeps.trans {s1 s2 s3 : AS} (h : Keeps s1 s2) (h' : Keeps s2 s3) : Keeps s1 s3 := fun b hb =>
  let ⟨b2, hb2, i2, c2⟩ := h b hb
  let ⟨b3, hb3, i3, c3⟩ := h' b2 hb2
  ⟨b3, hb3, i3.trans i2, c3.trans c2⟩

theorem step_keeps (hs : step s t sp = some s') : Keeps s s' := by
  intro b hb
  rcases (step_shape hs).blocks with e | ⟨bid, f, hf, e⟩ | ⟨th, x, nb, _, _, e⟩ <;> rw [e]
  · exact ⟨b, hb, rfl, rfl⟩
  · exact exists_of_map_eq_map (map_updB fun k => (hf k).1) (map_updB fun k => (hf k).2) b hb
  · exact ⟨b, List.mem_cons_of_mem _ hb, rfl, rfl⟩

theorem run_keeps (sched : List (Nat × Bool)) (s : AS) : Keeps s (run s sched) :=
  run_induct (P := Keeps s) (fun h hs => h.trans (step_keeps hs)) sched (Keeps.refl s)

theorem headId_updB (bs : List ABucket) (b : Nat) (f : ABucket → ABucket) (hf : ∀ k, (f k).id = k.id) :
    headId (updB bs b f) = headId bs := by
  unfold headId
  rw [← List.head?_map, ← List.head?_map, map_updB hf]

theorem succOf_updB (bs : List ABucket) (b : Nat) (f : ABucket → ABucket) (hf : ∀ k, (f k).id = k.id) (c : Nat) :
    succOf (updB bs b f) c = succOf bs c := by
  induction bs with
  | nil => rfl
  | cons a r ih =>
    rw [updB_cons]
    have hid : (if a.id = b then f a else a).id = a.id := by split <;> simp [hf]
    simp only [succOf, hid, headId_updB r b f hf, ih]

/-- The successor of a published block in the walk order never changes. -/
theorem step_walk (h : AInv cap0 s) (hs : step s t sp = some s')
    (c : Nat) (hc : ∃ b ∈ s.buckets, b.id = c) : succOf s'.buckets c = succOf s.buckets c := by
  rcases (step_shape hs).blocks with e | ⟨bid, f, hf, e⟩ | ⟨th, x, nb, ht, ho, e⟩ <;> rw [e]
  · exact succOf_updB _ _ _ (fun k => (hf k).1) c
  · obtain ⟨b, hb, hbc⟩ := hc
    have hne : nb.id ≠ c := fun he => ((h.pcOk t th ht).ownOk x nb ho).2.2.2.1 b hb (hbc.trans he.symm)
    simp [succOf, hne]

theorem run_walk (sched : List (Nat × Bool)) (h : AInv cap0 s)
    (c : Nat) (hc : ∃ b ∈ s.buckets, b.id = c) : succOf (run s sched).buckets c = succOf s.buckets c := by
  refine (run_induct_inv (P := fun s' => (∃ b ∈ s'.buckets, b.id = c) ∧ succOf s'.buckets c = succOf s.buckets c) ?_ sched h ⟨hc, rfl⟩).2
  rintro s1 s2 _ _ h1 ⟨⟨b, hb, hbc⟩, e⟩ hs
  obtain ⟨b', hb', hid, _⟩ := step_keeps hs b hb
  exact ⟨⟨b', hb', hid.trans hbc⟩, (step_walk h1 hs c ⟨b, hb, hbc⟩).trans e⟩

/-! ### The limit and its ghost maximum -/

theorem step_limits (hs : step s t sp = some s') : s'.max = s.max ∧ s'.hi = s.hi := by
  obtain ⟨th, ht, k⟩ := step_cases hs
  cases k <;> exact ⟨rfl, rfl⟩

theorem run_limits (sched : List (Nat × Bool)) (s : AS) : (run s sched).max = s.max ∧ (run s sched).hi = s.hi :=
  run_induct (P := fun s' => s'.max = s.max ∧ s'.hi = s.hi)
    (fun h hs => ⟨(step_limits hs).1.trans h.1, (step_limits hs).2.trans h.2⟩) sched ⟨rfl, rfl⟩

theorem inv_setMax (h : AInv cap0 s) (m : Nat) : AInv cap0 (setMax s m) :=
  have hle : s.hi ≤ Nat.max s.hi m := Nat.le_max_left _ _
  { h with
    pcOk := fun t th ht => (h.pcOk t th ht).frame rfl (Nat.le_refl _) hle
    capOk := Nat.le_trans h.capOk (Nat.max_le.mpr ⟨Nat.le_max_left _ _, Nat.le_trans hle (Nat.le_max_right _ _)⟩)
    maxLe := Nat.le_max_right _ _ }

theorem runE_inv (evs : List Ev) (h : AInv cap0 s) : AInv cap0 (runE s evs) :=
  runE_induct step_inv evs (fun m _ h => inv_setMax h m) h

theorem runE_acct (evs : List Ev) (hA : Acct s) : Acct (runE s evs) :=
  runE_induct step_acct evs (fun _ _ h => h) hA

/-- The ghost maximum is what it says: never below a limit that was in force. -/
theorem runE_hi_le (evs : List Ev) (s : AS) (B : Nat) (h0 : s.hi ≤ B) (hall : ∀ m, Ev.setMax m ∈ evs → m ≤ B) :
    (runE s evs).hi ≤ B :=
  runE_induct (P := fun s => s.hi ≤ B) (fun h hs => (step_limits hs).2 ▸ h) evs (fun m hm h => Nat.max_le.mpr ⟨h, hall m hm⟩) h0

end Lasso.CA
