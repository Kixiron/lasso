import LassoProofs.Lemmas.Clone
import LassoProofs.Lemmas.Views
import LassoModel.Serde
/-
  The deserialisers' loops over a list of strings: from a state holding `cs` (`Rodeo.contents`, see `Clone.lean`),
  with room for everything in the current block, to a state holding `cs ++ xs`.
-/
namespace Lasso
set_option linter.unusedSimpArgs false

/-- The loop of `Rodeo::deserialize` / `RodeoReader::deserialize` from a well-formed state whose
current block has room for all remaining strings: it ends in a well-formed interner holding the old
strings followed by the document's strings in order — exactly when no string comes twice and all are
within the key capacity — and otherwise in a serde error.  Never a panic, never a fault. -/
theorem deListLoop_spec {env : Env} (xs : List Bytes) :
    ∀ (r : Rodeo) (cs : List Bytes), r.Inv env → Rodeo.contents env r.arena.read r.strings = some cs →
    sumNat (xs.map List.length) ≤ r.arena.cur.free →
    (∃ t ss a, deListLoop env r.N xs r.strings.length r.table r.strings r.arena = .ok (t, ss, a) ∧
        (Rodeo.ofParts t ss a r.N).Inv env ∧ Rodeo.contents env a.read ss = some (cs ++ xs)) ∨
    (deListLoop env r.N xs r.strings.length r.table r.strings r.arena = .err .serde ∧
        ¬ ((cs ++ xs).Nodup ∧ (cs ++ xs).length ≤ r.N)) := by
  induction xs with
  | nil =>
    intro r cs h hc _
    exact Or.inl ⟨r.table, r.strings, r.arena, rfl, h, by simpa using hc⟩
  | cons x rest ih =>
    intro r cs h hc hsum
    obtain ⟨hlen, hstr⟩ := strAt_of_contents hc
    simp only [List.map_cons, sumNat] at hsum
    obtain ⟨a', ref, hst, hfree, _⟩ := Arena.store_fit_free r.arena x (by omega)
    obtain ⟨hwf', hmax, hf⟩ := Arena.store_fresh env h.wf hst
    unfold deListLoop
    simp only [hst, Rodeo.find_mono h hf.mono x]
    cases hfd : tfind env.hash (r.str env) r.table x with
    | some k =>
      refine Or.inr ⟨rfl, fun hnd => ?_⟩
      have : x ∈ cs := List.mem_of_getElem? ((hstr k).symm.trans (tfind_some hfd).1)
      exact (List.nodup_append.mp hnd.1).2.2 x this x (by simp) rfl
    | none =>
      simp only
      unfold keyOfIndex
      by_cases hlt : r.strings.length < r.N
      · simp only [hlt, ↓reduceIte, Rodeo.insert_push h ref hf.mono _ false]
        have hp := Rodeo.push_inv h hwf' hmax hf (Rodeo.tfind_none h hfd) hlt
        -- the pushed interner holds `cs ++ [x]`; the rest of the loop is the induction hypothesis
        have := ih _ (cs ++ [x]) hp.inv (contents_push hf.mono hf.content hc) (by show _ ≤ a'.cur.free; omega)
        simpa only [Rodeo.pushed, List.length_append, List.length_singleton, List.append_assoc,
          List.singleton_append] using this
      · exact Or.inr ⟨by simp [hlt], fun hle => by simp at hle; omega⟩

theorem docCapacity_pos (doc : List Bytes) : 0 < docCapacity doc ∧ sumNat (doc.map List.length) ≤ docCapacity doc := by
  unfold docCapacity
  simp only
  split <;> omega

/-- `Rodeo::deserialize` on an arbitrary list of strings: a well-formed interner whose key `j` is the
`j`-th string — exactly when the strings are pairwise distinct and within the key capacity — and a
serde error otherwise.  Never a panic or a fault. -/
theorem deRodeo_spec (env : Env) (N : Nat) (doc : List Bytes) :
    (∃ r, deRodeo env N doc = .ok r ∧ r.Inv env ∧ r.N = N ∧ r.strings.length = doc.length ∧
        (∀ j, r.str env j = doc[j]?) ∧ doc.Nodup ∧ doc.length ≤ N) ∨
    (deRodeo env N doc = .err .serde ∧ ¬ (doc.Nodup ∧ doc.length ≤ N)) := by
  obtain ⟨hpos, hsum⟩ := docCapacity_pos doc
  have hspec := deListLoop_spec doc (Rodeo.new N (docCapacity doc) usizeMax) [] (Rodeo.new_inv env N _ _ hpos) rfl
    (by simpa [Rodeo.new, Arena.new, Bucket.free] using hsum)
  simp only [Rodeo.new, List.length_nil, List.nil_append] at hspec
  unfold deRodeo
  rcases hspec with ⟨t, ss, a, he, hi, hc⟩ | ⟨he, hnot⟩
  · simp only [he]
    obtain ⟨_, hc', hnd, hle⟩ := Rodeo.contents_of_inv hi
    obtain rfl := Option.some.inj (hc.symm.trans hc')
    obtain ⟨hl, hs⟩ := strAt_of_contents hc
    exact Or.inl ⟨_, rfl, hi, rfl, hl, hs, hnd, hle⟩
  · exact Or.inr ⟨by simp only [he], hnot⟩

/-- What makes a resolver safe to use. -/
structure Resolver.Good (env : Env) (rs : Resolver) : Prop where
  total : ∀ k, k < rs.strings.length → ∃ y, rs.str env k = some y
  lenLe : rs.strings.length ≤ rs.N

theorem deResolverLoop_spec {env : Env} (xs : List Bytes) :
    ∀ (ss : List StrRef) (a : Arena) (cs : List Bytes), a.WF → sumNat (xs.map List.length) ≤ a.cur.free →
      Rodeo.contents env a.read ss = some cs →
      ∃ ss' a', deResolverLoop xs ss a = .ok (ss', a') ∧ a'.WF ∧ Rodeo.contents env a'.read ss' = some (cs ++ xs) := by
  induction xs with
  | nil =>
    intro ss a cs hwf _ hc
    exact ⟨ss, a, rfl, hwf, by simpa using hc⟩
  | cons x rest ih =>
    intro ss a cs hwf hsum hc
    simp only [List.map_cons, sumNat] at hsum
    obtain ⟨a', ref, hst, hfree, _⟩ := Arena.store_fit_free a x (by omega)
    obtain ⟨hwf', _, hf⟩ := Arena.store_fresh env hwf hst
    unfold deResolverLoop
    simp only [hst]
    have := ih (ss ++ [ref]) a' (cs ++ [x]) hwf' (by omega) (contents_push hf.mono hf.content hc)
    simpa only [List.append_assoc, List.singleton_append] using this

/-- The resolver's check before its loop asks whether the last position has a key. -/
theorem keyOfIndex_last_isNone (N n : Nat) : (n ≠ 0 ∧ (keyOfIndex N (n - 1)).isNone) ↔ N < n := by
  unfold keyOfIndex
  split <;> simp <;> omega

/-- `RodeoResolver::deserialize` on an arbitrary list of strings (repetitions allowed): a resolver
whose key `j` is the `j`-th string when the list is within the key capacity, a serde error otherwise. -/
theorem deResolver_spec (env : Env) (N : Nat) (doc : List Bytes) :
    (∃ rs, deResolver N doc = .ok rs ∧ rs.Good env ∧ rs.N = N ∧ rs.strings.length = doc.length ∧
        (∀ j, j < doc.length → rs.str env j = doc[j]?) ∧ doc.length ≤ N) ∨
    (deResolver N doc = .err .serde ∧ N < doc.length) := by
  obtain ⟨hpos, hsum⟩ := docCapacity_pos doc
  unfold deResolver
  have hchk := keyOfIndex_last_isNone N doc.length
  by_cases hbig : N < doc.length
  · rw [if_pos (hchk.mpr hbig)]
    exact Or.inr ⟨rfl, hbig⟩
  · rw [if_neg (mt hchk.mp hbig)]
    obtain ⟨ss', a', he, hwf', hc⟩ := deResolverLoop_spec (env := env) doc [] (Arena.new (docCapacity doc) usizeMax) []
      (Arena.new_wf _ _ hpos) (by simpa [Arena.new, Bucket.free] using hsum) rfl
    simp only [he]
    obtain ⟨hl, hs⟩ := strAt_of_contents hc
    simp only [List.nil_append] at hl hs
    refine Or.inl ⟨_, rfl, ⟨fun k hk => ?_, by simp only; omega⟩, rfl, hl, fun j _ => hs j, by omega⟩
    exact ⟨doc[k]'(hl ▸ hk), (hs k).trans (List.getElem?_eq_getElem _)⟩

end Lasso
