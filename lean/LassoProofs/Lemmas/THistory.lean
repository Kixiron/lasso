import LassoProofs.Lemmas.Threaded
import LassoProofs.Lemmas.History
/-
  Histories of state-changing calls on a `ThreadedRodeo` used from one thread.
-/
namespace Lasso

inductive TOp where
  | intern (x : Bytes)
  | internStatic (i : Nat)
  | setLimit (m : Nat)
  deriving Repr

def TOp.wellFormed (env : Env) : TOp → Prop
  | .internStatic i => i < env.pool.length
  | _ => True

def Threaded.apply (env : Env) (t : Threaded) : TOp → Threaded
  | .intern x => (t.tryIntern env x).1
  | .internStatic i => (t.tryInternStatic env i).1
  | .setLimit m => t.setLimit m

def Threaded.run (env : Env) (t : Threaded) (ops : List TOp) : Threaded := ops.foldl (Threaded.apply env) t

/-- One call keeps the invariant and every key -> string association. -/
theorem Threaded.apply_inv_keeps {env : Env} {t : Threaded} (h : t.Inv env) (op : TOp) (hw : op.wellFormed env) :
    (t.apply env op).Inv env ∧ ∀ k y, t.str env k = some y → (t.apply env op).str env k = some y := by
  cases op with
  | intern x =>
    rcases Threaded.tryIntern_spec h x with ⟨_, _, e⟩ | ⟨_, ⟨_, e⟩ | ⟨_, _, _, hm⟩⟩
    · simp only [Threaded.apply, e]; exact ⟨h, fun _ _ hk => hk⟩
    · simp only [Threaded.apply, e]; exact ⟨h, fun _ _ hk => hk⟩
    · exact hm.step
  | internStatic i =>
    rcases Threaded.tryInternStatic_spec h i _ (List.getElem?_eq_getElem hw) with ⟨_, _, e⟩ | ⟨_, hm⟩
    · simp only [Threaded.apply, e]; exact ⟨h, fun _ _ hk => hk⟩
    · exact hm.step
  | setLimit m => exact ⟨Threaded.setLimit_inv h m, fun _ _ hk => hk⟩

theorem Threaded.run_inv_keeps {env : Env} {t : Threaded} (h : t.Inv env) (ops : List TOp)
    (hw : ∀ op ∈ ops, op.wellFormed env) :
    (t.run env ops).Inv env ∧ ∀ k y, t.str env k = some y → (t.run env ops).str env k = some y :=
  foldl_invariant (I := fun t' => t'.Inv env ∧ ∀ k y, t.str env k = some y → t'.str env k = some y)
    (fun _ op h hop => have s := Threaded.apply_inv_keeps h.1 op hop; ⟨s.1, fun k y hk => s.2 k y (h.2 k y hk)⟩)
    ops t ⟨h, fun _ _ hk => hk⟩ hw

/-- Resolution paths of the concurrent interner read the key -> string map. -/
theorem Threaded.paths {env : Env} {t : Threaded} (k : Nat) (x : Bytes) (hk : t.str env k = some x) :
    t.resolve env k = .ok x ∧ t.tryResolve env k = .ok (some x) ∧ t.containsKey k = true := by
  unfold Threaded.str at hk
  unfold Threaded.resolve Threaded.tryResolve Threaded.containsKey
  cases hr : t.resolveRef k with
  | none => simp [hr] at hk
  | some r => simp only [hr] at hk; simp [hk]

theorem Threaded.unknown_key {env : Env} {t : Threaded} (h : t.Inv env) (k : Nat) (hk : t.strs.length ≤ k) :
    t.resolve env k = .panic ∧ t.tryResolve env k = .ok none ∧ t.containsKey k = false := by
  have : t.resolveRef k = none := Option.not_isSome_iff_eq_none.mp fun hs =>
    Nat.not_lt.mpr hk ((Threaded.resolveRef_isSome h k).mp hs)
  simp [Threaded.resolve, Threaded.tryResolve, Threaded.containsKey, this]

end Lasso
