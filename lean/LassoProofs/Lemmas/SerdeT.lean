import LassoProofs.Lemmas.Serde
/-
  `ThreadedRodeo::deserialize`: the loop over the (deduplicated) entries and the final validation.

  The entries arrive in textual order, so keys come in any order and may repeat: between iterations the interner
  is not well-formed.  `DeT` says what does hold then; the final validation (as many keys as strings, counter
  equal to their number) is what turns it into `Threaded.Inv` (`DeT.finish`), by counting.
-/
namespace Lasso
set_option linter.unusedSimpArgs false

/-- `n` distinct naturals below `n` are all of `0..n-1`. -/
theorem nodup_lt_full {l : List Nat} {n : Nat} (hnd : l.Nodup) (hlt : ∀ x ∈ l, x < n) (hlen : l.length = n) :
    ∀ k, k < n → k ∈ l := by
  intro k hk
  apply Classical.byContradiction
  intro hnot
  -- otherwise `k :: l` would be `n + 1` distinct naturals below `n`
  have := nodup_lt_len (List.nodup_cons.mpr ⟨hnot, hnd⟩) (n := n) fun x hx => by
    rcases List.mem_cons.mp hx with rfl | hx
    · exact hk
    · exact hlt x hx
  simp only [List.length_cons] at this
  omega

/-! ### The loop -/

/-- Loop invariant of `ThreadedRodeo::deserialize` after the entries `done` have been processed. -/
structure DeT (env : Env) (N : Nat) (t : Threaded) (done : List (Bytes × Nat)) : Prop where
  wf : t.arena.WF
  mapContent : t.map.map (fun e => contentOf env t.arena.read e.1) = done.map (fun e => some e.1)
  mapIdx : t.map.map (·.2) = done.map (fun e => indexOfKey e.2)
  strNd : (t.strs.map (·.1)).Nodup
  strFrom : ∀ k ref, (k, ref) ∈ t.strs → (ref, k) ∈ t.map
  lenLe : t.strs.length ≤ t.map.length
  good : t.strs.length = t.map.length → (∀ ref k, (ref, k) ∈ t.map → (k, ref) ∈ t.strs) ∧ (t.map.map (·.2)).Nodup
  ctrGt : ∀ e ∈ t.map, e.2 < t.ctr
  ctrMax : (t.ctr = 0 ∧ t.map = []) ∨ ∃ e ∈ t.map, t.ctr = e.2 + 1
  strKeys : ∀ e ∈ t.map, ∃ ref, (e.2, ref) ∈ t.strs
  idxLt : ∀ e ∈ t.map, e.2 < N
  valid : ∀ e ∈ t.map, ∀ loc, e.1 = .arena loc → t.arena.valid loc ∧ loc.len ≠ 0
  noStatic : ∀ e ∈ t.map, ∀ i, e.1 ≠ .static i
  disjoint : t.map.Pairwise (fun a b => ∀ l m, a.1 = .arena l → b.1 = .arena m → l.disjoint m)

/-- The empty interner the deserialiser starts from. -/
def deT0 (N cap : Nat) : Threaded :=
  { map := [], strs := [], ctr := 0, arena := LArena.new cap usizeMax, N := N, unordered := true }

theorem DeT.init (env : Env) (N : Nat) {cap : Nat} (h : 0 < cap) : DeT env N (deT0 N cap) [] := by
  constructor <;> simp [deT0, LArena.new_wf _ _ h]

theorem DeT.step {env : Env} {N : Nat} {t : Threaded} {done : List (Bytes × Nat)} (h : DeT env N t done)
    {x : Bytes} {raw : Nat} (hraw : 0 < raw ∧ raw ≤ N) {a' : LArena} {ref : StrRef}
    (hst : t.arena.store x = .ok (a', ref)) :
    DeT env N { t with arena := a', ctr := Nat.max t.ctr (indexOfKey raw + 1),
                       map := t.map ++ [(ref, indexOfKey raw)], strs := assocInsert (indexOfKey raw) ref t.strs }
      (done ++ [(x, raw)]) := by
  obtain ⟨hwf', _, hs⟩ := LArena.store_fresh env h.wf hst
  have ⟨hle, hfull⟩ := assocInsert_length (indexOfKey raw) ref t.strs
  have hl := h.lenLe
  exact {
    wf := hwf'
    mapContent := by
      have := map_contentOf_mono hs.mono (ss := t.map.map (·.1)) (cs := done.map (·.1))
        (by simpa [List.map_map, Function.comp_def] using h.mapContent)
      simpa [List.map_map, Function.comp_def, hs.content] using this
    mapIdx := by simp [h.mapIdx]
    strNd := assocInsert_nodup h.strNd
    strFrom := by
      intro k r hm
      rcases mem_assocInsert.mp hm with he | ⟨he, _⟩
      · simp [Prod.mk.inj he]
      · exact List.mem_append_left _ (h.strFrom k r he)
    lenLe := by simp only [List.length_append, List.length_singleton]; omega
    good := by
      -- as many keys as entries: so it was before, and the key just inserted was not there
      intro heq
      simp only [List.length_append, List.length_singleton] at heq
      have hfresh := hfull (by omega)
      obtain ⟨g1, g2⟩ := h.good (by omega)
      simp only [assocInsert_fresh ref hfresh]
      refine ⟨fun r k hm => ?_, ?_⟩
      · rcases List.mem_append.mp hm with hm | hm
        · exact List.mem_cons_of_mem _ (g1 r k hm)
        · simp [Prod.mk.inj (List.mem_singleton.mp hm)]
      simp only [List.map_append, List.map_cons, List.map_nil]
      refine List.nodup_append.mpr ⟨g2, by simp, ?_⟩
      intro a ha c hc' heq2
      obtain ⟨e, he, rfl⟩ := List.mem_map.mp ha
      exact hfresh (e.2, e.1) (g1 e.1 e.2 he) (by simpa using heq2.trans (List.mem_singleton.mp hc'))
    ctrGt := forall_mem_concat (fun e he => Nat.lt_of_lt_of_le (h.ctrGt e he) (Nat.le_max_left _ _))
      (Nat.lt_of_lt_of_le (Nat.lt_succ_self _) (Nat.le_max_right _ _))
    ctrMax := by
      right
      by_cases hc2 : t.ctr ≤ indexOfKey raw + 1
      · exact ⟨(ref, indexOfKey raw), by simp, Nat.max_eq_right hc2⟩
      · rcases h.ctrMax with ⟨h0, _⟩ | ⟨e, he, hce⟩
        · omega
        · exact ⟨e, by simp [he], (Nat.max_eq_left (by omega)).trans hce⟩
    strKeys := forall_mem_concat (fun e he => by
        obtain ⟨r, hr⟩ := h.strKeys e he
        by_cases hk : e.2 = indexOfKey raw
        · exact ⟨ref, mem_assocInsert.mpr (Or.inl (by rw [hk]))⟩
        · exact ⟨r, mem_assocInsert.mpr (Or.inr ⟨hr, hk⟩)⟩)
      ⟨ref, mem_assocInsert.mpr (Or.inl rfl)⟩
    idxLt := forall_mem_concat h.idxLt (by unfold indexOfKey; omega)
    valid := forall_mem_concat
      (fun e he loc hl => ⟨LArena.valid_mono h.wf hwf' hs.mono (h.valid e he loc hl).1, (h.valid e he loc hl).2⟩)
      (fun loc hl => ⟨(hs.loc loc hl).1, (hs.loc loc hl).2.1⟩)
    noStatic := forall_mem_concat h.noStatic fun i => by
      rcases LArena.store_nonempty_ref hst with ⟨_, rfl, _⟩ | ⟨_, _, rfl, _⟩ <;> simp
    disjoint := by
      simp only [List.pairwise_append, List.pairwise_cons, List.Pairwise.nil, List.mem_singleton]
      refine ⟨h.disjoint, by simp, ?_⟩
      rintro a ha c rfl l m hl hm
      exact (hs.loc m hm).2.2 l (h.valid a ha l hl).1 }

theorem deThreadedLoop_spec {env : Env} {N : Nat} (entries : List (Bytes × Nat)) :
    ∀ (t : Threaded) (done : List (Bytes × Nat)) (b : Bucket) (rest : List Bucket),
      DeT env N t done → t.arena.buckets = b :: rest →
      sumNat (entries.map (fun e => e.1.length)) ≤ b.cap - b.data.length →
      (∀ e ∈ entries, 0 < e.2 ∧ e.2 ≤ N) →
      ∃ t', deThreadedLoop entries t = .ok t' ∧ DeT env N t' (done ++ entries) ∧ t'.N = t.N := by
  induction entries with
  | nil =>
    intro t done b rest h _ _ _
    exact ⟨t, rfl, by simpa using h, rfl⟩
  | cons e more ih =>
    intro t done b rest h hb hsum hraw
    obtain ⟨x, raw⟩ := e
    simp only [List.map_cons, sumNat] at hsum
    obtain ⟨a', ref, hst, hbk⟩ := LArena.store_head_fit t.arena b rest x hb (by omega)
    unfold deThreadedLoop
    simp only [hst]
    have hstep := h.step (hraw (x, raw) (by simp)) hst
    have := ih _ (done ++ [(x, raw)]) { b with data := b.data ++ x } rest hstep hbk
      (by simp; omega) (fun e he => hraw e (by simp [he]))
    simpa using this

/-! ### `dedupLast` -/

theorem dedupLast_sublist (doc : List (Bytes × Nat)) : (dedupLast doc).Sublist doc := by
  induction doc with
  | nil => exact .slnil
  | cons a rest ih =>
    unfold dedupLast
    split
    · exact ih.cons _
    · exact ih.cons_cons _

theorem dedupLast_nodup (doc : List (Bytes × Nat)) : ((dedupLast doc).map (·.1)).Nodup := by
  induction doc with
  | nil => simp [dedupLast]
  | cons a rest ih =>
    unfold dedupLast
    split
    · exact ih
    next hn =>
      simp only [List.map_cons, List.nodup_cons, List.mem_map]
      refine ⟨?_, ih⟩
      rintro ⟨e, he, heq⟩
      exact hn (List.any_eq_true.mpr ⟨e, (dedupLast_sublist rest).subset he, by simpa using heq⟩)

theorem dedupLast_of_nodup (doc : List (Bytes × Nat)) (h : (doc.map (·.1)).Nodup) : dedupLast doc = doc := by
  induction doc with
  | nil => rfl
  | cons a rest ih =>
    simp only [List.map_cons, List.nodup_cons, List.mem_map] at h
    unfold dedupLast
    rw [if_neg, ih h.2]
    simp only [List.any_eq_true, beq_iff_eq]
    exact fun ⟨f, hf, hfa⟩ => h.1 ⟨f, hf, hfa⟩

/-! ### The final validation -/

theorem Loc.disjoint_symm {l m : Loc} (h : l.disjoint m) : m.disjoint l := by
  unfold Loc.disjoint at *
  rcases h with h | h | h
  · exact Or.inl (Ne.symm h)
  · exact Or.inr (Or.inr h)
  · exact Or.inr (Or.inl h)

/-- The final validation turns the loop invariant into the full interner invariant. -/
theorem DeT.finish {env : Env} {N : Nat} {t : Threaded} {done : List (Bytes × Nat)} (h : DeT env N t done)
    (hN : t.N = N) (hdn : (done.map (·.1)).Nodup)
    (hlen : t.strs.length = t.map.length) (hctr : t.ctr = t.strs.length) :
    t.Inv env ∧ ∀ e ∈ done, t.str env (indexOfKey e.2) = some e.1 := by
  obtain ⟨g1, g2⟩ := h.good hlen
  have hklt : ∀ e ∈ t.strs.map (·.1), e < t.strs.length := by
    intro k hk
    obtain ⟨e, he, rfl⟩ := List.mem_map.mp hk
    exact hctr ▸ h.ctrGt (e.2, e.1) (h.strFrom _ _ he)
  have hstr := Threaded.str_iff_of_nodup (env := env) h.strNd
  -- the strings of `done` are distinct, so a map entry is determined by the content of its reference
  have hcnd : (t.map.map fun e => contentOf env t.arena.read e.1).Nodup :=
    h.mapContent ▸ nodup_map_of_inj_on (nodup_of_nodup_map hdn)
      (fun _ ha _ hb e => eq_of_nodup_map hdn ha hb (Option.some.inj e))
  refine ⟨{
    wf := h.wf, mapStr := g1, strMap := h.strFrom, strNd := h.strNd, mapNd := g2, ctr := Or.inl hctr
    dense := fun k => ⟨fun hk => by
        -- `len` distinct keys below `len`: every number below `len` is one of them
        obtain ⟨e, he, rfl⟩ := List.mem_map.mp (nodup_lt_full h.strNd hklt (by simp) k hk)
        exact ⟨e.2, he⟩,
      fun ⟨ref, hm⟩ => hklt k (List.mem_map.mpr ⟨_, hm, rfl⟩)⟩
    valid := fun k loc hm => h.valid _ (h.strFrom k _ hm) loc rfl
    statics := fun k i hm => absurd rfl (h.noStatic _ (h.strFrom k _ hm) i)
    disjoint := by
      -- `DeT.disjoint` orders the two entries by position; disjointness is symmetric
      let R (a b : StrRef × Nat) := a.2 ≠ b.2 → ∀ l m, a.1 = .arena l → b.1 = .arena m → l.disjoint m
      have := List.Pairwise.forall_of_forall_of_flip (R := R) (fun _ _ hne => absurd rfl hne)
        (h.disjoint.imp (S := R) fun H _ => H)
        (h.disjoint.imp (S := flip R) fun H _ l m hl hm => Loc.disjoint_symm (H m l hm hl))
      intro k1 l1 k2 l2 h1 h2 hne
      exact this (h.strFrom _ _ h1) (h.strFrom _ _ h2) hne l1 l2 rfl rfl
    distinct := by
      intro i j y hi hj
      obtain ⟨ri, hmi, hci⟩ := (hstr i y).mp hi
      obtain ⟨rj, hmj, hcj⟩ := (hstr j y).mp hj
      exact congrArg Prod.snd (eq_of_nodup_map hcnd (h.strFrom _ _ hmi) (h.strFrom _ _ hmj) (hci.trans hcj.symm))
    lenLe := by
      have := nodup_lt_len h.strNd fun x hx => by
        obtain ⟨e, he, rfl⟩ := List.mem_map.mp hx
        exact h.idxLt _ (h.strFrom e.1 e.2 he)
      simpa [hN] using this }, ?_⟩
  intro e he
  obtain ⟨m, hm, hc, hi⟩ := exists_of_map_eq_map h.mapContent h.mapIdx e he
  exact (hstr _ _).mpr ⟨m.1, hi ▸ g1 _ _ hm, hc⟩

theorem rawKeys_ok_iff {N : Nat} {doc : List (Bytes × Nat)} :
    doc.any (fun e => decide (e.2 = 0 ∨ e.2 > N)) = false ↔ ∀ e ∈ doc, 0 < e.2 ∧ e.2 ≤ N := by
  simp only [List.any_eq_false, decide_eq_true_eq]
  constructor <;> intro h e he <;> have := h e he <;> omega

/-- With every raw key in range, the loop runs to the end; what is left is the final validation. -/
theorem deThreaded_run (env : Env) (N : Nat) (doc : List (Bytes × Nat)) (hraw : ∀ e ∈ doc, 0 < e.2 ∧ e.2 ≤ N) :
    ∃ t, DeT env N t (dedupLast doc) ∧ t.N = N ∧ t.map.length = (dedupLast doc).length ∧
      deThreaded N doc =
        if t.strs.length ≠ t.map.length ∨ t.ctr ≠ t.strs.length then .err .serde else .ok t := by
  obtain ⟨hpos, hsum⟩ := docCapacity_pos ((dedupLast doc).map (·.1))
  obtain ⟨t, he, hd, hN⟩ := deThreadedLoop_spec (dedupLast doc) _ [] ⟨0, _, []⟩ [] (DeT.init env N hpos) rfl
    (by simpa [List.map_map, Function.comp_def] using hsum) (fun e he => hraw e ((dedupLast_sublist doc).subset he))
  refine ⟨t, hd, hN, by simpa using congrArg List.length hd.mapContent, ?_⟩
  unfold deThreaded
  simp only [rawKeys_ok_iff.mpr hraw, Bool.false_eq_true, ↓reduceIte]
  simp only [deT0] at he
  simp only [he]

/-- `ThreadedRodeo::deserialize` on an arbitrary map document (repeated strings, repeated keys, gaps,
zero, values beyond the key range): a serde error, or a well-formed interner in which every entry of
the document (last occurrence per string) is found under its key.  Never a panic, never a fault. -/
theorem deThreaded_spec (env : Env) (N : Nat) (doc : List (Bytes × Nat)) :
    deThreaded N doc = .err .serde ∨
    ∃ t, deThreaded N doc = .ok t ∧ t.Inv env ∧ t.N = N ∧ t.strs.length = (dedupLast doc).length ∧
      ∀ e ∈ dedupLast doc, t.str env (indexOfKey e.2) = some e.1 := by
  by_cases hraw : ∀ e ∈ doc, 0 < e.2 ∧ e.2 ≤ N
  · obtain ⟨t, hd, hN, hml, he⟩ := deThreaded_run env N doc hraw
    rw [he]
    split
    · exact Or.inl rfl
    next hchk =>
      have h1 : t.strs.length = t.map.length := Decidable.byContradiction fun h => hchk (Or.inl h)
      have h2 : t.ctr = t.strs.length := Decidable.byContradiction fun h => hchk (Or.inr h)
      obtain ⟨hinv, hstr⟩ := hd.finish hN (dedupLast_nodup doc) h1 h2
      exact Or.inr ⟨t, rfl, hinv, hN, h1.trans hml, hstr⟩
  · left
    unfold deThreaded
    rw [if_pos (Bool.not_eq_false _ ▸ mt rawKeys_ok_iff.mp hraw)]

/-! ### Acceptance -/

/-- Distinct keys, each below their number: the final validation passes. -/
theorem DeT.check_passes {env : Env} {N : Nat} {t : Threaded} {done : List (Bytes × Nat)} (h : DeT env N t done)
    (hnd : (t.map.map (·.2)).Nodup) (hlt : ∀ e ∈ t.map, e.2 < t.map.length) :
    t.strs.length = t.map.length ∧ t.ctr = t.strs.length := by
  have hl : t.strs.length = t.map.length :=
    length_eq_of_same_keys h.strNd hnd (fun a ha => ⟨(a.2, a.1), h.strFrom _ _ ha, rfl⟩)
      (fun b hb => let ⟨r, hr⟩ := h.strKeys b hb; ⟨(b.2, r), hr, rfl⟩)
  -- the counter is above `map.length` distinct keys, and one more than one of them
  have hge : t.map.length ≤ t.ctr := by
    simpa using nodup_lt_len hnd fun x hx => by
      obtain ⟨e, he, rfl⟩ := List.mem_map.mp hx
      exact h.ctrGt e he
  refine ⟨hl, ?_⟩
  rcases h.ctrMax with ⟨h0, hm⟩ | ⟨e, he, hce⟩
  · omega
  · have := hlt e he
    omega

/-- A well-formed map document (pairwise distinct strings, keys exactly `1..n`, within the key
range) is accepted. -/
theorem deThreaded_accepts (env : Env) (N : Nat) (doc : List (Bytes × Nat))
    (hs : (doc.map (·.1)).Nodup) (hk : (doc.map (·.2)).Nodup)
    (hrange : ∀ e ∈ doc, 0 < e.2 ∧ e.2 ≤ doc.length) (hN : doc.length ≤ N) :
    ∃ t, deThreaded N doc = .ok t ∧ t.Inv env ∧ t.N = N ∧ t.strs.length = doc.length ∧
      ∀ e ∈ doc, t.str env (indexOfKey e.2) = some e.1 := by
  obtain ⟨t, hd, hN', hml, he⟩ := deThreaded_run env N doc fun e he => by have := hrange e he; omega
  rw [dedupLast_of_nodup doc hs] at hd hml
  have hnd : (t.map.map (·.2)).Nodup := by
    rw [hd.mapIdx]
    refine nodup_map_of_inj_on (nodup_of_nodup_map hk) fun a ha b hb hab => eq_of_nodup_map hk ha hb ?_
    have := hrange a ha
    have := hrange b hb
    unfold indexOfKey at hab
    omega
  have hlt : ∀ e ∈ t.map, e.2 < t.map.length := by
    intro e he'
    have : e.2 ∈ doc.map fun d => indexOfKey d.2 := hd.mapIdx ▸ List.mem_map_of_mem he'
    obtain ⟨d, hd', hde⟩ := List.mem_map.mp this
    have := hrange d hd'
    unfold indexOfKey at hde
    omega
  obtain ⟨c1, c2⟩ := hd.check_passes hnd hlt
  rw [if_neg (by simp [c1, c2])] at he
  obtain ⟨hinv, hstr⟩ := hd.finish hN' hs c1 c2
  exact ⟨t, he, hinv, hN', c1.trans hml, hstr⟩

end Lasso
