import LassoModel.Views
import LassoProofs.Lemmas.Lists
/-
  The association lists behind every map of the model (`assocGet` / `assocInsert`; the maps of the interleaving
  machine, `Conc.mapGet`, `strGet`, `lockOwner`, `strInsert`, are the same functions by definition).
-/
namespace Lasso

variable {κ ν : Type} [BEq κ] [LawfulBEq κ] {l : List (κ × ν)} {k : κ} {v : ν}

theorem mem_of_assocGet (h : assocGet k l = some v) : (k, v) ∈ l := by
  obtain ⟨e, he, rfl⟩ := Option.map_eq_some_iff.mp h
  have := List.find?_some he
  rw [← eq_of_beq this]
  exact List.mem_of_find?_eq_some he

theorem assocGet_eq_none : assocGet k l = none ↔ ∀ v, (k, v) ∉ l := by
  simp only [assocGet, Option.map_eq_none_iff, List.find?_eq_none, beq_iff_eq]
  exact ⟨fun h v hm => h _ hm rfl, fun h e he hk => h e.2 (hk ▸ he)⟩

omit [BEq κ] [LawfulBEq κ] in
/-- With distinct keys, a key has one value. -/
theorem assoc_unique (hnd : (l.map (·.1)).Nodup) {w : ν} (hv : (k, v) ∈ l) (hw : (k, w) ∈ l) : v = w :=
  (Prod.mk.inj (eq_of_nodup_map hnd hv hw rfl)).2

/-- With distinct keys a lookup finds exactly the entries of the list. -/
theorem assocGet_of_mem (hnd : (l.map (·.1)).Nodup) (h : (k, v) ∈ l) : assocGet k l = some v := by
  cases hg : assocGet k l with
  | none => exact absurd h (assocGet_eq_none.mp hg v)
  | some w => rw [assoc_unique hnd (mem_of_assocGet hg) h]

theorem mem_assocInsert {e : κ × ν} : e ∈ assocInsert k v l ↔ e = (k, v) ∨ (e ∈ l ∧ e.1 ≠ k) := by
  simp [assocInsert, List.mem_filter]

theorem assocInsert_nodup (h : (l.map (·.1)).Nodup) : ((assocInsert k v l).map (·.1)).Nodup := by
  simp only [assocInsert, List.map_cons, List.nodup_cons, List.mem_map, List.mem_filter]
  exact ⟨fun ⟨e, ⟨_, he⟩, hk⟩ => by simp [hk] at he, (List.Sublist.map _ List.filter_sublist).nodup h⟩

theorem assocInsert_fresh (v : ν) (h : ∀ e ∈ l, e.1 ≠ k) : assocInsert k v l = (k, v) :: l := by
  simp only [assocInsert, List.cons.injEq, true_and, List.filter_eq_self]
  intro e he; simp [h e he]

/-- An insert adds at most one entry, and exactly one only under a key that was not there. -/
theorem assocInsert_length (k : κ) (v : ν) (l : List (κ × ν)) :
    (assocInsert k v l).length ≤ l.length + 1 ∧
    ((assocInsert k v l).length = l.length + 1 → ∀ e ∈ l, e.1 ≠ k) := by
  unfold assocInsert
  simp only [List.length_cons, Nat.add_right_cancel_iff]
  refine ⟨by have := List.length_filter_le (fun e : κ × ν => !(e.1 == k)) l; omega, fun h e he => ?_⟩
  simpa using List.length_filter_eq_length_iff.mp h e he

omit [LawfulBEq κ] in
theorem assocGet_append (l l' : List (κ × ν)) (k : κ) : assocGet k (l ++ l') = (assocGet k l).or (assocGet k l') := by
  simp only [assocGet, List.find?_append, Option.map_or]

variable [DecidableEq κ]

theorem assocGet_cons (e : κ × ν) (l : List (κ × ν)) (k : κ) :
    assocGet k (e :: l) = if e.1 = k then some e.2 else assocGet k l := by
  unfold assocGet
  by_cases h : e.1 = k <;> simp [h]

theorem assocGet_assocInsert (k' : κ) : assocGet k' (assocInsert k v l) = if k' = k then some v else assocGet k' l := by
  rw [assocInsert, assocGet_cons]
  by_cases hk : k' = k
  · rw [if_pos hk, if_pos hk.symm]
  · -- the entries filtered out are not under `k'`
    rw [if_neg hk, if_neg (Ne.symm hk)]
    simp only [assocGet, List.find?_filter]
    congr 2
    funext e
    by_cases he : e.1 = k' <;> simp [he, hk]

end Lasso
