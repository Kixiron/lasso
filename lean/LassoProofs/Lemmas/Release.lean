import LassoModel.Release
import LassoProofs.Lemmas.Arena
import LassoProofs.Lemmas.LArena
import LassoProofs.Lemmas.History
import LassoProofs.Lemmas.THistory
/-
  The list walk of `impl Drop for AtomicBucketList`, interpreted: on a list of any length it frees every node
  once, head first, never reads a freed node, and stops.  Proved for the statement orders in `okDropBodies`
  (the capacity may be read before or after advancing and through either pointer while both still name the
  node, advancing may go through either pointer once the current node has been remembered - in every one of
  them the node is freed last, after its fields were read).
-/
namespace Lasso
open Source

def okDropBodies : List (List DropEffect) :=
  [ [.saveCurrent, .advance .head, .readCapacity .current, .layoutOfCapacity, .dealloc .current true],
    [.saveCurrent, .readCapacity .head, .advance .head, .layoutOfCapacity, .dealloc .current true],
    [.saveCurrent, .readCapacity .head, .layoutOfCapacity, .advance .head, .dealloc .current true],
    [.saveCurrent, .readCapacity .current, .advance .head, .layoutOfCapacity, .dealloc .current true],
    [.saveCurrent, .readCapacity .current, .layoutOfCapacity, .advance .head, .dealloc .current true],
    [.saveCurrent, .advance .current, .readCapacity .current, .layoutOfCapacity, .dealloc .current true],
    [.saveCurrent, .readCapacity .head, .advance .current, .layoutOfCapacity, .dealloc .current true],
    [.saveCurrent, .readCapacity .head, .layoutOfCapacity, .advance .current, .dealloc .current true],
    [.saveCurrent, .readCapacity .current, .advance .current, .layoutOfCapacity, .dealloc .current true],
    [.saveCurrent, .readCapacity .current, .layoutOfCapacity, .advance .current, .dealloc .current true] ]

/-- What one turn of the loop must do on node `k` when nodes `0..k-1` are gone. -/
def TurnOk (caps : List Nat) (body : List DropEffect) : Prop :=
  ∀ (k : Nat) (st : DropSt), k < caps.length → st.head = some k → st.freed = List.range k →
    ∃ st', dropBody caps body st = some st' ∧
      st'.head = (if k + 1 < caps.length then some (k + 1) else none) ∧ st'.freed = List.range (k + 1)

theorem okDropBodies_turn (caps : List Nat) (body : List DropEffect) (hb : body ∈ okDropBodies) : TurnOk caps body := by
  intro k st hk hh hf
  have hget : caps[k]? = some caps[k] := List.getElem?_eq_getElem hk
  have hnm : k ∉ List.range k := by simp
  simp only [okDropBodies, List.mem_cons, List.not_mem_nil, or_false] at hb
  rcases hb with rfl | rfl | rfl | rfl | rfl | rfl | rfl | rfl | rfl | rfl <;>
    simp [dropBody, dropStep, liveNode, DropSt.reg, hh, hf, hget, List.range_succ]

theorem dropLoop_all (caps : List Nat) (body : List DropEffect) (hturn : TurnOk caps body) :
    ∀ (m fuel k : Nat) (st : DropSt), k + m = caps.length → m ≤ fuel →
      st.head = (if k < caps.length then some k else none) → st.freed = List.range k →
      ∃ st', dropLoop caps body fuel st = some st' ∧ st'.freed = List.range caps.length := by
  intro m
  induction m with
  | zero =>
    intro fuel k st hkm _ hh hf
    have hk : k = caps.length := by omega
    subst hk
    have hn : st.head = none := by simpa using hh
    exact ⟨st, by cases fuel <;> simp [dropLoop, hn], hf⟩
  | succ m ih =>
    intro fuel k st hkm hfuel hh hf
    have hk : k < caps.length := by omega
    have hs : st.head = some k := by simpa [hk] using hh
    obtain ⟨st', hb, hh', hf'⟩ := hturn k st hk hs hf
    cases fuel with
    | zero => omega
    | succ f =>
      obtain ⟨st'', hl, hr⟩ := ih f (k + 1) st' (by omega) (by omega) hh' hf'
      exact ⟨st'', by simp [dropLoop, hs, hb, hl], hr⟩

/-- The walk frees every node exactly once, head first, for every list. -/
theorem runListDrop_ok (effects : List DropEffect) (body : List DropEffect) (hshape : dropShape effects = some body)
    (caps : List Nat) (hturn : TurnOk caps body) : runListDrop effects caps = some (List.range caps.length) := by
  obtain ⟨st', hl, hr⟩ := dropLoop_all caps body hturn caps.length (caps.length + 1) 0
    { head := if 0 < caps.length then some 0 else none, current := none, capacity := none, layout := none, freed := [] }
    (by omega) (by omega) rfl (by simp)
  simp [runListDrop, hshape, hl, hr]

theorem filterMap_range_getElem? {α β : Type} (f : α → β) (l : List α) :
    (List.range l.length).filterMap (fun i => l[i]?.map f) = l.map f := by
  induction l with
  | nil => simp
  | cons a l ih =>
    rw [List.length_cons, List.range_succ_eq_map, List.filterMap_cons]
    simp [List.filterMap_map, Function.comp_def, ih]

theorem LArena.releaseBy_ok (effects : List DropEffect) (body : List DropEffect) (hshape : dropShape effects = some body)
    (hturn : ∀ caps, TurnOk caps body) (a : LArena) : a.releaseBy effects = some a.release := by
  simp [LArena.releaseBy, runListDrop_ok effects body hshape _ (hturn _), LArena.release, filterMap_range_getElem?]

/-- Decidable acceptance of a regenerated walk: right shape, and a body whose every order is proved above. -/
def walkAccepted (effects : List DropEffect) : Bool :=
  match dropShape effects with
  | some body => okDropBodies.contains body
  | none => false

theorem walkAccepted_spec {effects : List DropEffect} (h : walkAccepted effects = true) :
    (∀ caps : List Nat, runListDrop effects caps = some (List.range caps.length)) ∧
    (∀ a : LArena, a.releaseBy effects = some a.release) := by
  unfold walkAccepted at h
  split at h
  next body hs =>
    have hturn := fun caps => okDropBodies_turn caps body (by simpa using h)
    exact ⟨fun caps => runListDrop_ok effects body hs caps (hturn caps), LArena.releaseBy_ok effects body hs hturn⟩
  · cases h

/-! ## Blocks persist: no operation other than dropping the owner gives a block up

Stated on what would be released (identity and capacity of every block), so that histories compose by
transitivity of `⊆`. -/

theorem Stores.released {s : Bytes} {bs bs' : List Bucket} {n n' d : Nat} {loc : Loc}
    (h : Stores s bs n bs' n' loc d) : bs.map Bucket.released ⊆ bs'.map Bucket.released := by
  intro x hx
  obtain ⟨c, hc, rfl⟩ := List.mem_map.mp hx
  cases h with
  | fill hp hp' _ =>
    rcases List.mem_cons.mp (hp.mem_iff.mp hc) with rfl | hc'
    · exact List.mem_map.mpr ⟨_, hp'.mem_iff.mpr (List.mem_cons_self ..), rfl⟩
    · exact List.mem_map.mpr ⟨c, hp'.mem_iff.mpr (List.mem_cons_of_mem _ hc'), rfl⟩
  | fresh hp' _ => exact List.mem_map.mpr ⟨c, hp'.mem_iff.mpr (List.mem_cons_of_mem _ hc), rfl⟩

theorem Arena.mem_release {a : Arena} {x : Released} : x ∈ a.release ↔ x ∈ a.all.map Bucket.released := by
  simp [Arena.release, Arena.vecOrder, Arena.all, or_comm]

theorem Arena.store_release {a a' : Arena} {s : Bytes} {r : StrRef} (h : a.store s = .ok (a', r)) :
    a.release ⊆ a'.release := by
  rcases Arena.store_ok h with ⟨_, rfl, _⟩ | ⟨_, _, _, _, hst, _⟩
  · exact List.Subset.refl _
  · exact fun x hx => Arena.mem_release.mpr (hst.released (Arena.mem_release.mp hx))

theorem Arena.clear_release (a : Arena) : a.clear.release = a.release := by
  simp [Arena.release, Arena.vecOrder, Arena.clear, Bucket.released, Bucket.clear, Function.comp_def]

theorem LArena.store_release {a a' : LArena} {s : Bytes} {r : StrRef} (h : a.store s = .ok (a', r)) :
    a.release ⊆ a'.release := by
  rcases LArena.store_ok h with ⟨_, rfl, _⟩ | ⟨_, _, _, _, hst, _⟩
  · exact List.Subset.refl _
  · exact hst.released

theorem Rodeo.tryIntern_release {env : Env} {r r' : Rodeo} {x : Bytes} {g : Bool} {k : Nat}
    (he : r.tryIntern env x g = .ok (r', k)) : r.arena.release ⊆ r'.arena.release := by
  unfold Rodeo.tryIntern at he
  simp only at he
  repeat' split at he
  all_goals cases he
  all_goals first | exact List.Subset.refl _ | exact Arena.store_release ‹_›

theorem Rodeo.tryInternStatic_release {env : Env} {r r' : Rodeo} {i : Nat} {g : Bool} {k : Nat}
    (he : r.tryInternStatic env i g = .ok (r', k)) : r.arena.release ⊆ r'.arena.release := by
  unfold Rodeo.tryInternStatic at he
  simp only at he
  repeat' split at he
  all_goals cases he
  all_goals exact List.Subset.refl _

theorem Rodeo.apply_release (env : Env) (r : Rodeo) (op : ROp) : r.arena.release ⊆ (r.apply env op).arena.release := by
  cases op with
  | intern x g =>
    simp only [Rodeo.apply]
    split
    next he => exact Rodeo.tryIntern_release he
    · exact List.Subset.refl _
  | internStatic i g =>
    simp only [Rodeo.apply]
    split
    next he => exact Rodeo.tryInternStatic_release he
    · exact List.Subset.refl _
  | setLimit m => exact List.Subset.refl _
  | clear => exact (Arena.clear_release r.arena).symm ▸ List.Subset.refl _

theorem Rodeo.run_release (env : Env) (r : Rodeo) (ops : List ROp) : r.arena.release ⊆ (r.run env ops).arena.release :=
  foldl_invariant (I := fun r' => r.arena.release ⊆ r'.arena.release) (ok := fun _ => True)
    (fun r' op h _ => h.trans (Rodeo.apply_release env r' op)) ops r (List.Subset.refl _) (fun _ _ => trivial)

theorem Threaded.apply_release (env : Env) (t : Threaded) (op : TOp) : t.arena.release ⊆ (t.apply env op).arena.release := by
  cases op with
  | intern x =>
    simp only [Threaded.apply, Threaded.tryIntern]
    repeat' split
    all_goals first | exact List.Subset.refl _ | exact LArena.store_release ‹_›
  | internStatic i =>
    simp only [Threaded.apply, Threaded.tryInternStatic]
    repeat' split
    all_goals exact List.Subset.refl _
  | setLimit m => exact List.Subset.refl _

theorem Threaded.run_release (env : Env) (t : Threaded) (ops : List TOp) : t.arena.release ⊆ (t.run env ops).arena.release :=
  foldl_invariant (I := fun t' => t.arena.release ⊆ t'.arena.release) (ok := fun _ => True)
    (fun t' op h _ => h.trans (Threaded.apply_release env t' op)) ops t (List.Subset.refl _) (fun _ _ => trivial)

theorem Arena.release_ids_nodup {a : Arena} (h : a.WF) : (a.release.map (·.id)).Nodup := by
  have hp : (a.vecOrder.map (·.id)).Perm (a.all.map (·.id)) := by
    simp only [Arena.vecOrder, Arena.all, List.map_append, List.map_cons, List.map_nil]
    exact List.perm_append_comm
  have : a.release.map (·.id) = a.vecOrder.map (·.id) := by
    simp [Arena.release, Bucket.released, Function.comp_def]
  rw [this]
  exact hp.nodup_iff.mpr h.ids

theorem LArena.release_ids_nodup {a : LArena} (h : a.WF) : (a.release.map (·.id)).Nodup := by
  have : a.release.map (·.id) = a.buckets.map (·.id) := by
    simp [LArena.release, Bucket.released, Function.comp_def]
  rw [this]; exact h.ids

end Lasso
