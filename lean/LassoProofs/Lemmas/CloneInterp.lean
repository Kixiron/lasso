import LassoModel.CloneInterp
namespace Lasso
open Lasso.Source

theorem clone_loopBody :
    cloneLoopBody Extracted.cloneCopyEffects =
      [.store, .propagate, .stringsPush, .hashOne, .probe, .keyCheck .loopIndex, .reject, .tableInsert] := rfl

/-- Running the effect sequence regenerated from `clone_strings_into` is the model's `Rodeo.cloneInto`. -/
theorem interp_clone_is_model (env : Env) (N : Nat) (grow : Bool) (src : List Bytes) :
    ∀ (idx : Nat) (t : Table) (ss : List StrRef) (a : Arena),
      interpCloneInto env N grow Extracted.cloneCopyEffects src idx t ss a = Rodeo.cloneInto env N grow src idx t ss a := by
  induction src with
  | nil => intro idx t ss a; simp [interpCloneInto, Rodeo.cloneInto]
  | cons x rest ih =>
    intro idx t ss a
    unfold interpCloneInto Rodeo.cloneInto
    rw [clone_loopBody]
    simp only [runCEffects, CEffect.run, CReg.start]
    cases a.store x with
    | ok p =>
      obtain ⟨a', ref⟩ := p
      simp only []
      cases tableFind env a'.read (ss ++ [ref]) t x with
      | ok o =>
        cases o with
        | some k => simp
        | none =>
          simp only []
          cases keyOfIndex N idx with
          | none => simp
          | some raw =>
            simp only [Option.isNone_some]
            cases tableInsert t (env.hash x) idx grow (rehashFn env a'.read (ss ++ [ref])) with
            | ok t' => simp [ih]
            | _ => simp
      | _ => simp
    | _ => simp

theorem interp_tryClone_is_model (env : Env) (r : Rodeo) (grow : Bool) :
    interpTryClone env Extracted.tryCloneEffects Extracted.cloneCopyEffects r grow = r.tryClone env grow := by
  unfold interpTryClone Rodeo.tryClone Extracted.tryCloneEffects
  cases Rodeo.contents env r.arena.read r.strings with
  | none => simp
  | some cs =>
    simp only [runWEffects, CEffect.runW, interp_clone_is_model]
    cases Rodeo.cloneInto env r.N grow cs 0 [] []
        (Arena.new (if sumNat (cs.map List.length) = 0 then 4096 else sumNat (cs.map List.length))
          (Nat.max r.arena.max (if sumNat (cs.map List.length) = 0 then 4096 else sumNat (cs.map List.length)))) with
    | _ => simp

theorem interp_tryCloneFrom_is_model (env : Env) (target source : Rodeo) (grow : Bool) :
    interpTryCloneFrom env Extracted.tryCloneFromEffects Extracted.cloneCopyEffects target source grow =
      Rodeo.tryCloneFrom env target source grow := by
  unfold interpTryCloneFrom Rodeo.tryCloneFrom Extracted.tryCloneFromEffects
  cases Rodeo.contents env source.arena.read source.strings with
  | none => simp
  | some cs =>
    simp only [runWEffects, CEffect.runW, interp_clone_is_model, Rodeo.clear]
    cases Rodeo.cloneInto env target.N grow cs 0 [] [] target.arena.clear with
    | _ => simp

end Lasso
