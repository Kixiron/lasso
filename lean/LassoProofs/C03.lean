import LassoProofs.Lemmas.Conc
import LassoProofs.Lemmas.SerdeT
import LassoModel.Extracted
import LassoProofs.Lemmas.ConcEffects
import LassoProofs.Lemmas.ConcSeq
import LassoProofs.Lemmas.Config
import LassoProofs.Lemmas.TInternInterp
/-
  C03 — concurrent interning is atomic: one key per string under every schedule.

  Quantified over: any number of threads, any programs (lists of intern / intern-static / get /
  try_resolve / contains_key / len calls), any shard function, any key capacity `N`, any block size and
  memory limit, and *every* schedule (`run` executes a list of thread ids at the granularity of the
  schedule points; entries naming a blocked or finished thread are no-ops, so every list is a schedule).
-/
namespace Lasso.C03
open Lasso Lasso.Conc

/-- The `(string, key)` pair a completed call told its thread (interning or lookup). -/
def toldOf (e : Nat × Call × Res) : Option (Bytes × Nat) :=
  match e.2.1, e.2.2 with
  | .intern x, .key k => some (x, k)
  | .internStatic x, .key k => some (x, k)
  | .get x, .optKey (some k) => some (x, k)
  | _, _ => none

theorem told_in_map {s : CS} (hl : LogOk s) {e : Nat × Call × Res} (he : e ∈ s.log) {x : Bytes} {k : Nat}
    (ht : toldOf e = some (x, k)) : (x, k) ∈ s.map := by
  have := hl e he
  unfold entryOk at this
  unfold toldOf at ht
  split at ht <;> simp_all

section
variable (sh : Bytes → Nat) (N cap max : Nat) (programs : List (List Call))

/-- The invariant behind the theorems below holds in every reachable state: every string->key entry has
its key->string entry (the latter is inserted first and never removed), both maps are injective,
every key in use is below the counter and the capacity, a thread between its `fetch_add` and its
inserts owns an index nobody else has. -/
theorem invariant_always (sched : List Nat) : Inv sh N (run sh N (init cap max programs) sched) :=
  run_inv sched (init_inv sh N cap max programs)

theorem log_always (sched : List Nat) : LogOk (run sh N (init cap max programs) sched) :=
  run_logOk sched (init_inv sh N cap max programs) (fun _ he => by simp [init] at he)

/-- All calls for equal strings return the same key, calls for different strings different keys —
under every schedule, whichever threads made the calls. -/
theorem one_key_per_string (sched : List Nat) (e1 e2 : Nat × Call × Res) (x y : Bytes) (k1 k2 : Nat)
    (h1 : e1 ∈ (run sh N (init cap max programs) sched).log) (h2 : e2 ∈ (run sh N (init cap max programs) sched).log)
    (t1 : toldOf e1 = some (x, k1)) (t2 : toldOf e2 = some (y, k2)) : (x = y ↔ k1 = k2) := by
  have hi := invariant_always sh N cap max programs sched
  have m1 := told_in_map (log_always sh N cap max programs sched) h1 t1
  have m2 := told_in_map (log_always sh N cap max programs sched) h2 t2
  -- both pairs are in the string->key map, whose keys are distinct, and (swapped) in key->string, likewise
  constructor
  · rintro rfl; exact assoc_unique hi.mapNd m1 m2
  · rintro rfl; exact assoc_unique hi.strNd (hi.mapStr x k1 m1) (hi.mapStr y k1 m2)

/-- Any key a thread has obtained (from interning or from a lookup) resolves to its string at once
and forever after, and every later lookup of that string finds that key: for every continuation of
the schedule. -/
theorem obtained_key_resolves_forever (sched more : List Nat) (e : Nat × Call × Res) (x : Bytes) (k : Nat)
    (h : e ∈ (run sh N (init cap max programs) sched).log) (t : toldOf e = some (x, k)) :
    strGet (run sh N (run sh N (init cap max programs) sched) more).strs k = some x ∧
    mapGet (run sh N (run sh N (init cap max programs) sched) more).map x = some k := by
  have hi := invariant_always sh N cap max programs sched
  have hi2 := run_inv (sh := sh) (N := N) more hi
  have m := (run_mono more hi).1 (told_in_map (log_always sh N cap max programs sched) h t)
  exact ⟨assocGet_of_mem hi2.strNd (hi2.mapStr x k m), assocGet_of_mem hi2.mapNd m⟩

/-- When all threads are done the keys in use are exactly `0 .. count-1`, and `count` is the number
of distinct strings successfully interned (the two maps are in bijection). -/
theorem quiescent_dense (sched : List Nat)
    (hq : quiescent (run sh N (init cap max programs) sched) = true) :
    let s := run sh N (init cap max programs) sched
    (∀ k, k < s.strs.length ↔ ∃ x, (k, x) ∈ s.strs) ∧ s.strs.length = s.map.length ∧
    (s.map.map (·.1)).Nodup ∧ (∀ x k, (x, k) ∈ s.map ↔ (k, x) ∈ s.strs) := by
  intro s
  have hi : Inv sh N s := invariant_always sh N cap max programs sched
  have hidle : ∀ (t : Nat) (th : Thread), s.ts[t]? = some th → th.pc = PC.idle := by
    intro t th ht
    have hq' : quiescent s = true := hq
    simp only [quiescent, List.all_eq_true, Bool.and_eq_true, beq_iff_eq] at hq'
    exact (hq' th (List.mem_of_getElem? ht)).1
  -- no thread has a pair pending or an index in hand, so the existential alternatives of `strSrc`, `dense` are void
  have hbij : ∀ x k, (x, k) ∈ s.map ↔ (k, x) ∈ s.strs := fun x k =>
    ⟨hi.mapStr x k, fun hm => (hi.strSrc k x hm).resolve_right fun ⟨t, th, ht, hp⟩ => by
      rw [hidle t th ht] at hp; cases hp⟩
  have hkeys : ∀ k, (∃ x, (k, x) ∈ s.strs) ↔ k < Nat.min s.ctr N := fun k =>
    ⟨fun ⟨x, hx⟩ => Nat.lt_min.mpr (hi.strLt k x hx), fun hk =>
      (hi.dense k (Nat.lt_min.mp hk).1 (Nat.lt_min.mp hk).2).resolve_right fun ⟨t, th, ht, ho⟩ => by
        rw [hidle t th ht] at ho; cases ho⟩
  -- the keys in use are a duplicate-free list with the members of `range (min ctr N)`
  have hlen : s.strs.length = Nat.min s.ctr N := by
    have hperm : (s.strs.map (·.1)).Perm (List.range (Nat.min s.ctr N)) :=
      (List.perm_ext_iff_of_nodup hi.strNd List.nodup_range).mpr fun k => by
        rw [List.mem_range, ← hkeys k]
        exact ⟨fun hk => let ⟨e, he, hek⟩ := List.mem_map.mp hk; ⟨e.2, hek ▸ he⟩, fun ⟨x, hx⟩ => List.mem_map.mpr ⟨_, hx, rfl⟩⟩
    simpa using hperm.length_eq
  refine ⟨fun k => by rw [hlen, hkeys], ?_, hi.mapNd, hbij⟩
  -- and so are the keys of the string->key map, one for each string
  have hnd2 : (s.map.map (·.2)).Nodup :=
    nodup_map_of_inj_on (nodup_of_nodup_map hi.mapNd) fun a ha b hb hab =>
      Prod.ext (assoc_unique hi.strNd (hi.mapStr a.1 a.2 ha) (hab ▸ hi.mapStr b.1 b.2 hb)) hab
  exact length_eq_of_same_keys hi.strNd hnd2 (fun e he => ⟨(e.2, e.1), (hbij e.2 e.1).mpr he, rfl⟩)
    fun e he => ⟨(e.2, e.1), (hbij e.1 e.2).mp he, rfl⟩

end

/-! ### Non-vacuity: two threads racing for the same string, an interleaved schedule -/
example :
    let s := run (fun _ => 0) 255 (init 8 1000 [[.intern [1]], [.intern [1], .get [1]]]) [0, 1, 0, 0, 0, 0, 0, 1, 1, 1]
    (s.log.filterMap toldOf) = [([1], 0), ([1], 0), ([1], 0)] := by decide

/-! ### Tie to the source

The machine fetches a key index in ONE atomic step (`locked x false`: `key.fetch_add(1)`), and consults
the counter nowhere else.  The extractor lists every atomic operation on `self.key` of
`threaded_rodeo.rs`; outside the `verif_*` audit hook these must be exactly the two `fetch_add`s of the
two interning entry points. -/
theorem key_allocation_atomic :
    ((Extracted.atomicOps.filter fun op => op.role == .keyCounter).map fun op => op.kind) = [.fetchAdd, .fetchAdd] := by
  decide

/-- The machine's transitions are the source's operations in the source's order: the program counters
a thread passes through while interning a new string, mapped to the operations each step performs, give
exactly the effect sequence regenerated from `try_get_or_intern` resp. `try_get_or_intern_static`
(fast lookup; lock and second lookup; store; key fetch and check; key->string insert; string->key
insert).  Reordering the two inserts, dropping the second lookup, fetching the key before the store or
touching the maps anywhere else changes the extracted sequence and breaks this theorem. -/
theorem steps_are_source_operations (sh : Bytes → Nat) (N cap max : Nat) (x : Bytes) (hN : 0 < N) (hx : 0 < x.length) (hc : x.length ≤ cap) :
    ((pcsAlong sh N (init cap max [[.intern x]]) 0 6).flatMap effectsOfStep) = Extracted.internEffects ∧
    ((pcsAlong sh N (init cap max [[.internStatic x]]) 0 5).flatMap effectsOfStep) = Extracted.internStaticEffects := by
  -- one thread, a fresh interner, one new string that fits the first block: both runs are evaluated
  have hk : keyOfIndex N 0 = some 1 := by simp [keyOfIndex, hN]
  have hne : ¬ x.length = 0 := by omega
  constructor
  · simp [pcsAlong, init, step, lockOwner, mapGet, setThread, LArena.new, LArena.store, LArena.fitIn, hne, hc, hk,
      effectsOfStep, Extracted.internEffects]
  · simp [pcsAlong, init, step, lockOwner, mapGet, setThread, hk, effectsOfStep, Extracted.internStaticEffects]

/-- Run by one thread, the machine *is* the sequential model of `ThreadedRodeo` (`Threaded.tryIntern`
/ `tryInternStatic`, on which the single-thread theorems of C01, C02, C07, C10 about the concurrent
interner are proved): states related through what the lookups answer (same arena, same counter, same
key->string and string->key answers) stay related by one interning call, and the machine logs exactly
the sequential model's result — present string, memory error, key-space error or new key. -/
theorem solo_calls_are_sequential_model (sh : Bytes → Nat) (env : Env) (s : CS) (t : Threaded) (hR : RelT env s t)
    (hI : t.Inv env) (x : Bytes) (rest : List Call) :
    (s.ts = [{ pc := .idle, todo := .intern x :: rest }] →
      ∃ n, (run sh t.N s (List.replicate n 0)).ts = [{ pc := .idle, todo := rest }] ∧
        RelT env (run sh t.N s (List.replicate n 0)) (t.tryIntern env x).1 ∧
        (run sh t.N s (List.replicate n 0)).log = (0, .intern x, resOf (t.tryIntern env x).2) :: s.log) ∧
    (∀ i, env.pool[i]? = some x → s.ts = [{ pc := .idle, todo := .internStatic x :: rest }] →
      ∃ n, (run sh t.N s (List.replicate n 0)).ts = [{ pc := .idle, todo := rest }] ∧
        RelT env (run sh t.N s (List.replicate n 0)) (t.tryInternStatic env i).1 ∧
        ∃ c, (c = Call.intern x ∨ c = Call.internStatic x) ∧
          (run sh t.N s (List.replicate n 0)).log = (0, c, resOf (t.tryInternStatic env i).2) :: s.log) := by
  refine ⟨fun ht => ?_, fun i hpool ht => ?_⟩
  · cases hg : t.get env x with
    | some k =>
      obtain ⟨_, rfl, h⟩ := solo_hit sh hR hI false ht hg
      simp only [Threaded.tryIntern_eq hI, hg]
      exact ⟨1, h⟩
    | none =>
      have h2 := solo_miss sh hR hI false ht hg
      -- the copying path: `ref` is what `store` returns, unless the arena refuses
      rcases LArena.store_total t.arena x with ⟨a', ref, hst⟩ | ⟨hst, _⟩ <;> simp only [Threaded.tryIntern_eq hI, hg, hst]
      · have h3 : run sh t.N { s with locks := [(sh x, 0)], ts := [⟨.locked x true, rest⟩] } (List.replicate 1 0) =
            { s with arena := a', locks := [(sh x, 0)], ts := [⟨.locked x false, rest⟩] } := by
          simp [List.replicate, run, step, hR.arena, hst]
        obtain ⟨n, _, rfl, h⟩ := solo_mint sh hR hI (LArena.store_fresh env hI.wf hst).2.2 (Threaded.get_none hI hg) rest
        refine ⟨2 + (1 + n), ?_⟩
        rw [run_solo_add h2, Bool.not_false, run_solo_add h3]
        exact h
      · have h3 : run sh t.N { s with locks := [(sh x, 0)], ts := [⟨.locked x true, rest⟩] } (List.replicate 1 0) =
            { s with locks := [], ts := [⟨.idle, rest⟩], log := (0, .intern x, .err .memoryLimit) :: s.log } := by
          simp [List.replicate, run, step, hR.arena, hst, finish, unlock]
        refine ⟨2 + 1, ?_⟩
        rw [run_solo_add h2, Bool.not_false, h3]
        exact ⟨rfl, ⟨hR.arena, hR.ctr, rfl, hR.strs, hR.map⟩, rfl⟩
  · cases hg : t.get env x with
    | some k =>
      obtain ⟨_, rfl, h1, h2, h3⟩ := solo_hit sh hR hI true ht hg
      simp only [Threaded.tryInternStatic_eq hI hpool, hg]
      exact ⟨1, h1, h2, _, .inr rfl, h3⟩
    | none =>
      -- the reference is the static one, over the arena as it is; the machine logs the publishing step as the copying call
      obtain ⟨n, _, rfl, h1, h2, h3⟩ := solo_mint sh (s := s) hR hI (.static_ref hpool) (Threaded.get_none hI hg) rest
      simp only [Threaded.tryInternStatic_eq hI hpool, hg]
      refine ⟨2 + n, ?_⟩
      rw [run_solo_add (solo_miss sh hR hI true ht hg), Bool.not_true, hR.arena]
      exact ⟨h1, h2, _, .inl rfl, h3⟩

/-- The sequential model of the concurrent interner *is* the regenerated effect sequences run by one thread:
the sequences of `try_get_or_intern` / `try_get_or_intern_static` are given a semantics
(`LassoModel/TInternInterp.lean`: lock-free lookup, shard lock and second lookup, store, key fetch, key check, the
two inserts) and running them equals `Threaded.tryIntern` / `tryInternStatic` for every state and string.  Together
with `steps_are_source_operations` (the interleaving machine steps through the same operations) and
`solo_calls_are_sequential_model` (the machine run by one thread is that sequential model) the three descriptions
of the interning path - source statements, sequential model, interleaving machine - are tied pairwise. -/
theorem solo_interning_runs_the_source (env : Env) (t : Threaded) :
    (∀ x, interpTIntern env Extracted.internEffects t x = t.tryIntern env x) ∧
    (∀ i, interpTInternStatic env Extracted.internStaticEffects t i = t.tryInternStatic env i) :=
  ⟨fun x => interp_tintern_is_model env t x, fun i => interp_tintern_static_is_model env t i⟩

/-- The code this file's theorems are about is the same under every feature configuration: the regenerated
census of conditional compilation contains import blocks, whole serde impls, optional-dependency impls and
module declarations only, and no gate inside any function body (`Lemmas/Config.lean`). -/
theorem same_code_under_every_feature_configuration :
    (Extracted.cfgGates.all fun g => g.kind != .other) = true ∧ Extracted.bodyGates.isEmpty = true :=
  Lasso.one_code_base_for_all_configurations

end Lasso.C03
