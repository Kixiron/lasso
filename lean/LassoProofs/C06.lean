import LassoProofs.Lemmas.Views
import LassoModel.Extracted
import LassoProofs.C02
import LassoProofs.Lemmas.Config
/-
  C06 — reader and resolver views preserve every association of their source.

  A view is an immutable value in the model: every query is a pure function of it, so any number of
  threads querying a view at once get the answers of the sequential run.  That the
  real views have no interior mutability reachable from `&self` is not a theorem here: it rests on
  the extracted receivers (C20's table: every view method takes `&self`) and is exercised by the
  concurrent-reader run of the harness.
-/
namespace Lasso.C06
open Lasso Lasso.C02

/-- Direct route from the single-threaded interner: the view *is* the interner's table, vector and
arena, so every query is definitionally the same function of the same data. -/
theorem rodeo_views_same (env : Env) (r : Rodeo) (k : Nat) (x : Bytes) :
    r.intoReader.get env x = r.get env x ∧
    r.intoReader.resolve env k = r.resolve env k ∧ r.intoReader.tryResolve env k = r.tryResolve env k ∧
    r.intoReader.resolveUnchecked env k = r.resolveUnchecked env k ∧ r.intoReader.containsKey k = r.containsKey k ∧
    r.intoReader.iter env = r.iter env ∧ r.intoReader.strings.length = r.len ∧
    r.intoResolver.resolve env k = r.resolve env k ∧ r.intoResolver.tryResolve env k = r.tryResolve env k ∧
    r.intoResolver.containsKey k = r.containsKey k ∧ r.intoResolver.iter env = r.iter env ∧
    r.intoReader.intoResolver = r.intoResolver :=
  ⟨rfl, rfl, rfl, rfl, rfl, rfl, rfl, rfl, rfl, rfl, rfl, rfl⟩

/-- For a reachable interner this means: the reader answers every string-to-key probe (interned or
not) exactly, never faults, and every key minted before the conversion resolves to its string. -/
theorem rodeo_reader_exact {env : Env} {r : Rodeo} (h : RodeoReach env r) (x : Bytes) :
    ∃ o, r.intoReader.get env x = .ok o ∧ (∀ k, o = some k ↔ r.str env k = some x) :=
  Rodeo.get_spec (rodeo_reach_inv h) x

/-- Concurrent interner → resolver: the conversion does not fault (the scatter by key index is in
bounds and fills every slot because the keys in use are exactly `0..len-1`) and the resolver has
the same count and the same string under every key. -/
theorem threaded_into_resolver {env : Env} {t : Threaded} (h : ThreadedReach env t) :
    ∃ rs, t.intoResolver = .ok rs ∧ rs.strings.length = t.len ∧
      ∀ k, rs.str env k = t.str env k ∧
        (∀ x, t.str env k = some x → rs.resolve env k = .ok x ∧ rs.tryResolve env k = .ok (some x) ∧ rs.containsKey k = true) ∧
        (t.str env k = none → rs.tryResolve env k = .ok none ∧ rs.containsKey k = false) := by
  obtain ⟨rs, h1, h2, _, _, h5⟩ := Threaded.intoResolver_spec (threaded_reach_inv h)
  refine ⟨rs, h1, h2, fun k => ⟨h5 k, ?_, ?_⟩⟩
  · intro x hx
    have hs : strAt env rs.arena.read rs.strings k = some x := by rw [← hx]; exact h5 k
    have hl := strAt_lt hs
    simp [Resolver.resolve, resolveIn, Resolver.tryResolve, tryResolveIn, Resolver.containsKey, hl, hs]
  · intro hn
    have hk : ¬ k < rs.strings.length := fun hk => by
      obtain ⟨y, hy⟩ := (Threaded.lt_len_iff (threaded_reach_inv h) k).mp (h2 ▸ hk)
      rw [hy] at hn; cases hn
    simp [Resolver.tryResolve, tryResolveIn, Resolver.containsKey, hk]

/-- Concurrent interner → reader: additionally every string-to-key answer is preserved, "absent"
included, for every probe string. -/
theorem threaded_into_reader {env : Env} {t : Threaded} (h : ThreadedReach env t) :
    ∃ rd, t.intoReader env = .ok rd ∧ rd.strings.length = t.len ∧ (∀ k, rd.str env k = t.str env k) ∧
      ∀ x, ∃ o, rd.get env x = .ok o ∧ o = t.get env x := by
  have hi := threaded_reach_inv h
  obtain ⟨rd, h1, hg, h3, _, h5⟩ := Threaded.intoReader_spec hi
  refine ⟨rd, h1, h3, h5, ?_⟩
  intro x
  obtain ⟨o, ho, hs⟩ := Reader.get_spec hg x
  exact ⟨o, ho, Option.ext fun k => by rw [hs k, Threaded.get_spec hi x k, h5 k]⟩

/-- Reader → resolver moves the vector and the arena. -/
theorem reader_into_resolver (env : Env) (rd : Reader) (k : Nat) :
    rd.intoResolver.resolve env k = rd.resolve env k ∧ rd.intoResolver.tryResolve env k = rd.tryResolve env k ∧
    rd.intoResolver.iter env = rd.iter env ∧ rd.intoResolver.containsKey k = rd.containsKey k :=
  ⟨rfl, rfl, rfl, rfl⟩

/-! Concurrent readers: there is no theorem to state — the model has no operation on a view that
returns a changed view, every query above is a function `View → Answer`, so the answers cannot depend
on how queries of different threads interleave.  This clause of the property is therefore covered
only structurally by the model and empirically by the harness (`partial`, see DESIGN.md). -/

/-! ### Tie to the source

In the model a reader / resolver made from a `Rodeo` (or a resolver made from a reader) *is* the same
fields (`rodeo_views_same`).  The bodies of the three conversions regenerated from the source only
destructure `self` and hand the fields to the view's constructor. -/
theorem conversion_bodies_move_fields :
    Extracted.rodeoIntoReaderBody = .moves (.readerNew [.map, .hasher, .strings, .arena]) ∧
    Extracted.rodeoIntoResolverBody = .moves (.resolverNew [.strings, .arena]) ∧
    Extracted.readerIntoResolverBody = .moves (.resolverNew [.strings, .arena]) := by
  decide

/-! ### Concurrent readers of a view

"Any number of threads may query a view at once and all get the same answers."  In the model a view is an
immutable value and every query a function of it.  On the source side this rests on three regenerated facts,
decided here: no method of `RodeoReader` / `RodeoResolver` (inherent or through the traits) takes `&mut self`;
apart from the consuming conversions none of them touches the arena - the only field that can hold interior
mutability (the lock-free arena's atomics, when the view came from the concurrent interner) - and every field
they do touch (`map`, `hasher`, `strings`) has a type without atomics, locks or cells; and the views are `Sync`
only under the bounds C19 proves.  A query is then a read of plain data through a shared reference. -/
def plainTy : Nat → Source.TyE → Bool
  | 0, _ => false
  | _ + 1, .param _ => true
  | n + 1, .ref t => plainTy n t
  | n + 1, .array t => plainTy n t
  | n + 1, .app c args =>
    (match c with
      | .atomicUsize | .atomicPtr | .dashMap | .lockfreeArena | .atomicBucket | .atomicBucketList | .other _ => false
      | _ => true) && args.all (plainTy n)

theorem view_queries_are_pure_reads :
    (Extracted.viewMethods.all fun m =>
      !m.unknownField && m.recv != .refMut &&
        (m.recv == .val || m.recv == .boxSelf || m.recv == .none || !(m.fields.contains .arena))) = true ∧
    (Extracted.viewMethods.any fun m => m.name == "get" && m.recv == .ref) = true ∧
    ((Extracted.structDefs.filter fun d => d.name == .reader || d.name == .resolver).all fun d =>
      d.fields.all fun t => (match t with
        | .app .anyArena _ => true      -- the arena: never touched by a query (first clause)
        | t => plainTy 6 t)) = true ∧
    ((Extracted.structDefs.filter fun d => d.name == .reader || d.name == .resolver).length = 2) := by
  decide

/-- The code this file's theorems are about is the same under every feature configuration: the regenerated
census of conditional compilation contains import blocks, whole serde impls, optional-dependency impls and
module declarations only, and no gate inside any function body (`Lemmas/Config.lean`). -/
theorem same_code_under_every_feature_configuration :
    (Extracted.cfgGates.all fun g => g.kind != .other) = true ∧ Extracted.bodyGates.isEmpty = true :=
  Lasso.one_code_base_for_all_configurations

end Lasso.C06
