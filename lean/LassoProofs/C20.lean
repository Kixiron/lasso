import LassoModel.Borrow
import LassoModel.Extracted
import LassoProofs.Lemmas.Config
/-
  C20 — resolved strings cannot outlive or be invalidated under their borrower.

  `decide`d over the signatures regenerated from the source on this run; the matrix (containers ×
  string-returning entry points × invalidating operations) is finite and enumerated completely.
-/
namespace Lasso.C20
open Lasso.Source Lasso.Borrow

/-- Every probe of the matrix that is applicable is rejected: for every container, every
string-returning entry point it has and every invalidating operation it has, the three-statement
program does not pass the borrow model. -/
theorem every_probe_rejected :
    (containers.all fun o => stringEntryPoints.all fun e => invalidators.all fun i =>
      match probe Extracted.fnSigs o e i with
      | none => true                 -- not applicable
      | some (some _) => true        -- rejected
      | some none => false) = true := by
  decide +kernel

/-- The trait-object forms: a string obtained through `dyn Resolver` over any vector container,
followed by any invalidating operation of that container. -/
theorem every_dyn_probe_rejected :
    ([Owner.rodeo, .reader, .resolver].all fun o => [SigName.resolve, .tryResolve, .resolveUnchecked].all fun e =>
      invalidators.all fun i =>
        match probeVia Extracted.fnSigs .traitResolver o e i with
        | none => true
        | some (some _) => true
        | some none => false) = true := by
  decide +kernel

/-- The entry points and operations the property lists exist where it says they do (so the
statement above is not vacuous): the vector containers have all seven string-returning entry points,
the concurrent interner five; `Rodeo` can be cleared, cloned into and consumed, the concurrent
interner and the reader consumed. -/
theorem matrix_not_vacuous :
    (([Owner.rodeo, .reader, .resolver].all fun o => stringEntryPoints.all fun e => (findSig Extracted.fnSigs o e).isSome) &&
     ([SigName.resolve, .tryResolve, .index, .iter, .strings].all fun e => (findSig Extracted.fnSigs .threaded e).isSome) &&
     ([SigName.clear, .cloneFrom, .tryCloneFrom, .intoReader, .intoResolver].all fun n => (findSig Extracted.fnSigs .rodeo n).isSome) &&
     ([SigName.intoReader, .intoResolver].all fun n => (findSig Extracted.fnSigs .threaded n).isSome) &&
     (findSig Extracted.fnSigs .reader .intoResolver).isSome) = true := by
  decide +kernel

/-- Every string-returning entry point — of the four containers and of the `Resolver` trait (the
trait-object forms) — ties the returned lifetime to the borrow of `self`; none returns `'static` or
an unconstrained lifetime; iterator items carry the iterator's own lifetime. -/
theorem lifetimes_tied_to_self :
    ((Extracted.fnSigs.filter fun s => stringEntryPoints.contains s.name).all fun s => s.ret == .self_) = true ∧
    (Extracted.iterItems.all fun i => i.item == .self_) = true ∧ Extracted.iterItems.length = 4 := by
  decide +kernel

/-- Invalidating operations need exclusive access or ownership. -/
theorem invalidators_exclusive :
    ((Extracted.fnSigs.filter fun s => [SigName.clear, .cloneFrom, .tryCloneFrom].contains s.name).all fun s => s.recv == .refMut) = true ∧
    ((Extracted.fnSigs.filter fun s => [SigName.intoReader, .intoResolver].contains s.name).all fun s => s.recv == .val) = true := by
  decide +kernel

/-- Only strings that live for the whole program are accepted by the zero-copy entry points: every
static entry point (inherent on both interners, and of the `Interner` trait) demands `&'static str`;
the copying ones accept any borrow. -/
theorem static_entry_points_demand_static :
    ((Extracted.fnSigs.filter fun s => [SigName.getOrInternStatic, .tryGetOrInternStatic].contains s.name).all fun s =>
        s.strArgStatic == some true) = true ∧
    ((Extracted.fnSigs.filter fun s => [SigName.getOrInternStatic, .tryGetOrInternStatic].contains s.name).length = 6) ∧
    ((Extracted.fnSigs.filter fun s => [SigName.getOrIntern, .tryGetOrIntern].contains s.name).all fun s =>
        s.strArgStatic == some false) = true := by
  decide +kernel

/-- Negative companion: an entry point returning `&'static str` would make the probe pass. -/
example : probe [{ owner := .rodeo, name := .resolve, recv := .ref, strArgStatic := none, ret := .static_, isUnsafe := false },
                 { owner := .rodeo, name := .clear, recv := .refMut, strArgStatic := none, ret := .noStr, isUnsafe := false }]
    .rodeo .resolve .clear = some none := by decide

/-- The code this file's theorems are about is the same under every feature configuration: the regenerated
census of conditional compilation contains import blocks, whole serde impls, optional-dependency impls and
module declarations only, and no gate inside any function body (`Lemmas/Config.lean`). -/
theorem same_code_under_every_feature_configuration :
    (Extracted.cfgGates.all fun g => g.kind != .other) = true ∧ Extracted.bodyGates.isEmpty = true :=
  Lasso.one_code_base_for_all_configurations

end Lasso.C20
