import LassoProofs.Lemmas.Clone
import LassoProofs.C02
import LassoModel.Extracted
import LassoProofs.Lemmas.Config
import LassoProofs.Lemmas.CloneInterp
/-
  C12 — a clone is equal in content and completely independent of its source.

  In the model an interner is a value that owns its arena; `try_clone` builds a *new* arena value and
  re-stores every string into it (as the source code does), so the clone shares nothing with its
  source by construction.  That the real clone shares no memory is what the block audit of the
  correspondence run checks (every string of the clone lies in a block of the clone).
-/
namespace Lasso.C12
set_option linter.unnecessarySimpa false
open Lasso Lasso.C02

/-- Cloning (fallibly or infallibly) any reachable interner succeeds — also under a memory limit,
because the clone's arena is sized to hold every string in its first block — and the clone has the
same count, the same string under every key and the same string-to-key answers. -/
theorem clone_eq {env : Env} {r : Rodeo} (h : RodeoReach env r) (g : Bool) :
    ∃ c, r.tryClone env g = .ok c ∧ Rodeo.expectOk (r.tryClone env g) = .ok c ∧ c.Inv env ∧ c.len = r.len ∧
      (∀ k, c.str env k = r.str env k) ∧ (∀ x, c.get env x = r.get env x) := by
  have hi := rodeo_reach_inv h
  obtain ⟨c, h1, h2, _, h4, h5⟩ := Rodeo.tryClone_total hi g
  refine ⟨c, h1, by simp [h1, Rodeo.expectOk], h2, h4, h5, ?_⟩
  intro x
  obtain ⟨o1, e1, s1⟩ := Rodeo.get_spec h2 x
  obtain ⟨o2, e2, s2⟩ := Rodeo.get_spec hi x
  rw [e1, e2]
  congr 1
  exact Option.ext fun k => by rw [s1 k, s2 k, h5 k]

/-- Everything the clone holds lives in the clone's own arena (or is the empty literal): no static
reference and no location of the source survives. -/
theorem clone_owns {env : Env} {r c : Rodeo} (h : RodeoReach env r) (g : Bool) (hc : r.tryClone env g = .ok c) :
    ∀ loc, StrRef.arena loc ∈ c.strings → c.arena.valid loc := by
  obtain ⟨c', h1, _, h2, _⟩ := clone_eq h g
  rw [hc] at h1; injection h1 with h1; subst h1
  intro loc hm; exact (h2.valid loc hm).1

/-- The target of a clone-into keeps nothing of its previous content: on success it holds exactly
the source's key->string pairs, under its own limit; the only possible failure is that limit. -/
theorem cloneFrom_fresh {env : Env} {target source : Rodeo} (ht : RodeoReach env target) (hs : RodeoReach env source)
    (hN : target.N = source.N) (g : Bool) :
    (∃ r', Rodeo.tryCloneFrom env target source g = .ok r' ∧ r'.Inv env ∧ r'.len = source.len ∧
        (∀ k, r'.str env k = source.str env k) ∧ r'.arena.max = target.arena.max) ∨
    Rodeo.tryCloneFrom env target source g = .err .memoryLimit := by
  rcases Rodeo.tryCloneFrom_spec (rodeo_reach_inv ht) (rodeo_reach_inv hs) hN g with ⟨r', h1, h2, _, h4, h5, h6⟩ | he
  · exact Or.inl ⟨r', h1, h2, h4, h5, h6⟩
  · exact Or.inr he

/-! ### Independence: any interleaving of two histories equals the two histories run alone -/

inductive Side where
  | source | clone
  deriving DecidableEq

def applyPair (env : Env) (w : Rodeo × Rodeo) (op : Side × ROp) : Rodeo × Rodeo :=
  match op.1 with
  | .source => (w.1.apply env op.2, w.2)
  | .clone => (w.1, w.2.apply env op.2)

def runPair (env : Env) (w : Rodeo × Rodeo) (ops : List (Side × ROp)) : Rodeo × Rodeo :=
  ops.foldl (applyPair env) w

def project (s : Side) (ops : List (Side × ROp)) : List ROp :=
  (ops.filter (fun o => o.1 == s)).map (·.2)

/-- Interning into, clearing or (not) using either one never changes the other: the state of each
after any interleaving is its state after its own operations alone, in their own order. -/
theorem frame (env : Env) (w : Rodeo × Rodeo) (ops : List (Side × ROp)) :
    runPair env w ops = (w.1.run env (project .source ops), w.2.run env (project .clone ops)) := by
  induction ops generalizing w with
  | nil => rfl
  | cons op rest ih =>
    simp only [runPair, List.foldl_cons]
    have := ih (applyPair env w op)
    simp only [runPair] at this
    rw [this]
    obtain ⟨s, o⟩ := op
    cases s <;> simp [applyPair, project, Rodeo.run]

/-- Hence the clone keeps answering as the source did at clone time, whatever is done to the source
afterwards (including clearing it — dropping it is not even an operation on the clone). -/
theorem clone_unaffected_by_source {env : Env} {r c : Rodeo} (srcOps : List ROp) (k : Nat) :
    (runPair env (r, c) (srcOps.map (fun o => (Side.source, o)))).2.str env k = c.str env k := by
  rw [frame]
  have : project .clone (srcOps.map (fun o => (Side.source, o))) = [] := by
    induction srcOps with
    | nil => rfl
    | cons o rest ih => simpa [project] using ih
  simp [this, Rodeo.run]

/-! ### Non-vacuity -/
example : (match (Rodeo.new 255 2 1000).tryIntern C02.constEnv [1, 2, 3] true with
    | .ok (r, _) => (match r.tryClone C02.constEnv true with
      | .ok c => decide (c.len = 1 ∧ c.arena.usage = 3) && (c.str C02.constEnv 0 == some [1, 2, 3])
      | _ => false)
    | _ => false) = true := by decide

/-! ### Tie to the source: cloning as effect sequences

`Rodeo.tryClone` / `tryCloneFrom` (`LassoModel/Rodeo.lean`) mirror `try_clone`, `try_clone_from` and their
shared helper `clone_strings_into`.  The extractor regenerates their effects in evaluation order: the new
arena is sized to the total length of the source's strings and limited by `max(source limit, that total)`;
vector and table are pre-sized with the source's count; the hasher is cloned; `clone_from` first clears the
target, takes over the source's hasher and reserves; the copy loop stores, pushes, hashes, probes, checks the key
of the entry's position and inserts; nothing returns early. -/
theorem clone_follows_model :
    Extracted.tryCloneEffects =
      [.sumLengths, .arenaSizedToContent, .propagate, .presizeExact, .presizeExact, .cloneHasher, .copyAll, .propagate] ∧
    Extracted.tryCloneFromEffects =
      [.clearTarget, .takeHasher, .reserve, .propagate, .reserve, .propagate, .copyAll, .propagate] ∧
    Extracted.cloneCopyEffects =
      [.loopBegin, .store, .propagate, .stringsPush, .hashOne, .probe, .keyCheck .loopIndex, .reject, .tableInsert,
       .loopEnd] :=
  ⟨rfl, rfl, rfl⟩

/-- Stronger than comparing sequences: the copy loop's regenerated effect sequence is given a semantics
(`LassoModel/CloneInterp.lean`) and running it is the model's `Rodeo.cloneInto`, for every source list, start
index, table, vector, arena and growth oracle: store and propagate a failure, push, hash, probe (an occupied
entry is the `unreachable!`), key check on the position and the key-space error, insert. -/
theorem clone_loop_runs_the_source (env : Env) (N : Nat) (grow : Bool) (src : List Bytes) (idx : Nat) (t : Table)
    (ss : List StrRef) (a : Arena) :
    interpCloneInto env N grow Extracted.cloneCopyEffects src idx t ss a = Rodeo.cloneInto env N grow src idx t ss a :=
  interp_clone_is_model env N grow src idx t ss a

/-- ... and so are `try_clone` and `try_clone_from` as wholes: the total length (the default capacity when it is
0), the arena sized to it under `max(source limit, total)`, resp. the cleared target; then the copy loop; a failure
of the loop is propagated.  Running the regenerated sequences equals `Rodeo.tryClone` / `Rodeo.tryCloneFrom` for
every source, target and growth oracle. -/
theorem clone_runs_the_source (env : Env) (grow : Bool) :
    (∀ r : Rodeo, interpTryClone env Extracted.tryCloneEffects Extracted.cloneCopyEffects r grow = r.tryClone env grow) ∧
    (∀ target source : Rodeo, interpTryCloneFrom env Extracted.tryCloneFromEffects Extracted.cloneCopyEffects target source grow =
      Rodeo.tryCloneFrom env target source grow) :=
  ⟨fun r => interp_tryClone_is_model env r grow, fun t s => interp_tryCloneFrom_is_model env t s grow⟩

/-- The code this file's theorems are about is the same under every feature configuration: the regenerated
census of conditional compilation contains import blocks, whole serde impls, optional-dependency impls and
module declarations only, and no gate inside any function body (`Lemmas/Config.lean`). -/
theorem same_code_under_every_feature_configuration :
    (Extracted.cfgGates.all fun g => g.kind != .other) = true ∧ Extracted.bodyGates.isEmpty = true :=
  Lasso.one_code_base_for_all_configurations

end Lasso.C12
