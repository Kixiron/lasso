import LassoProofs.C06
import LassoModel.Extracted
import LassoProofs.Lemmas.Config
/-
  C18 — equality between interners and views means equal content, nothing else.

  The shapes of all `PartialEq` impls are regenerated from the source (`Extracted.eqImpls`); the
  driver evaluates `a == b` by the shape extracted for that pairing.
-/
namespace Lasso.C18
open Lasso Lasso.C02 Lasso.Source

/-- Exactly the supported pairings exist, and each has the body shape that the theorems below are
about (vector containers: `self.strings == other.strings`; concurrent interner on the left: same
length and every key looked up).  An added, removed or rewritten impl changes this table. -/
theorem pairings :
    Extracted.eqImpls =
      [⟨.rodeo, .rodeo, .stringsEq⟩, ⟨.rodeo, .reader, .stringsEq⟩, ⟨.rodeo, .resolver, .stringsEq⟩,
       ⟨.reader, .reader, .stringsEq⟩, ⟨.reader, .resolver, .stringsEq⟩, ⟨.reader, .rodeo, .stringsEq⟩,
       ⟨.resolver, .resolver, .stringsEq⟩, ⟨.resolver, .reader, .stringsEq⟩, ⟨.resolver, .rodeo, .stringsEq⟩,
       ⟨.threaded, .threaded, .lenAndAllLookup⟩, ⟨.threaded, .rodeo, .lenAndAllLookup⟩,
       ⟨.threaded, .reader, .lenAndAllLookup⟩, ⟨.threaded, .resolver, .lenAndAllLookup⟩] :=
  rfl

/-- Both directions exist for every pairing among the three vector containers. -/
theorem vector_pairings_symmetric :
    ([Wrapper.rodeo, .reader, .resolver].all fun a => [Wrapper.rodeo, .reader, .resolver].all fun b =>
      (Extracted.eqImpls.any fun e => e.lhs == a && e.rhs == b) &&
      (Extracted.eqImpls.any fun e => e.lhs == b && e.rhs == a)) = true := by decide

/-- `strings == strings`: equal exactly when both hold the same number of strings and the same
string under every key; reflexive; the same answer in both directions.  It is a function of the
contents only: hasher, capacity, memory limit and provenance (copied or static) do not occur. -/
theorem eqStrings_iff (xs ys : List Bytes) :
    eqStrings (some xs) (some ys) = .ok true ↔ (xs.length = ys.length ∧ ∀ k : Nat, xs[k]? = ys[k]?) := by
  simp only [eqStrings, Out.ok.injEq, beq_iff_eq]
  constructor
  · intro h; subst h; exact ⟨rfl, fun _ => rfl⟩
  · rintro ⟨_, h⟩; exact List.ext_getElem? h

theorem eqStrings_refl (xs : List Bytes) : eqStrings (some xs) (some xs) = .ok true := by simp [eqStrings]

theorem eqStrings_symm (xs ys : List Bytes) : eqStrings (some xs) (some ys) = eqStrings (some ys) (some xs) := by
  simp only [eqStrings]
  rw [BEq.comm]

/-- Concurrent interner on the left, a vector container on the right. -/
theorem eqThreadedVec_iff {env : Env} {t : Threaded} (h : ThreadedReach env t) (ys : List Bytes) :
    eqThreadedVec env t.N t (some ys) = .ok true ↔ (t.len = ys.length ∧ ∀ k : Nat, k < ys.length → t.str env k = ys[k]?) := by
  have hi := threaded_reach_inv h
  simp only [eqThreadedVec, Out.ok.injEq, Bool.and_eq_true, beq_iff_eq, List.all_eq_true, List.mem_range, Threaded.len]
  -- the two sides differ in the clause for `k` only, and `k` is within the key capacity
  refine and_congr_right fun hl => forall_congr' fun k => imp_congr_right fun hk => ?_
  have hN : k < t.N := by have := hi.lenLe; omega
  simp only [keyOfIndex, hN, ↓reduceIte, beq_iff_eq]

/-- Two concurrent interners. -/
theorem eqThreaded_iff {env : Env} {a b : Threaded} (ha : ThreadedReach env a) (hb : ThreadedReach env b) :
    eqThreaded env a b = true ↔ (a.len = b.len ∧ ∀ k, a.str env k = b.str env k) := by
  have hia := threaded_reach_inv ha
  have hib := threaded_reach_inv hb
  simp only [eqThreaded, Bool.and_eq_true, beq_iff_eq, List.all_eq_true, Threaded.len]
  constructor
  · rintro ⟨hl, hall⟩
    refine ⟨hl, Threaded.str_ext hia hib hl fun k y hy => ?_⟩
    obtain ⟨ref, hr, hc⟩ := (Threaded.str_iff hia k y).mp hy
    simpa [hc] using hall (k, ref) hr
  · rintro ⟨hl, hall⟩
    refine ⟨hl, fun e he => ?_⟩
    obtain ⟨y, hy⟩ := Threaded.content_some hia he
    simp only [hy, beq_iff_eq]
    rw [← hall e.1]
    exact (Threaded.str_iff hia e.1 y).mpr ⟨e.2, he, hy⟩

/-! ### Non-vacuity -/
example : eqStrings (some [[1], [2]]) (some [[1], [2]]) = .ok true ∧ eqStrings (some [[1], [2]]) (some [[2], [1]]) = .ok false ∧
    eqStrings (some [[1]]) (some [[1], [2]]) = .ok false := by decide

/-- The code this file's theorems are about is the same under every feature configuration: the regenerated
census of conditional compilation contains import blocks, whole serde impls, optional-dependency impls and
module declarations only, and no gate inside any function body (`Lemmas/Config.lean`). -/
theorem same_code_under_every_feature_configuration :
    (Extracted.cfgGates.all fun g => g.kind != .other) = true ∧ Extracted.bodyGates.isEmpty = true :=
  Lasso.one_code_base_for_all_configurations

end Lasso.C18
