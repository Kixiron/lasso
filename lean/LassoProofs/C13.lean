import LassoProofs.C02
import LassoModel.Extracted
import LassoProofs.Lemmas.Config
/-
  C13 — clear() empties the interner completely and leaves it fully usable.
-/
namespace Lasso.C13
open Lasso Lasso.C02

/-- After `clear`: count 0, every key unknown to the safe lookup paths (and `resolve` panics, as
documented), every string-to-key lookup answers "absent", iteration yields nothing — for every
previously issued key and every string, whatever the history before. -/
theorem clear_empty (env : Env) (r : Rodeo) (k : Nat) (x : Bytes) :
    r.clear.len = 0 ∧ r.clear.tryResolve env k = .ok none ∧ r.clear.containsKey k = false ∧
    r.clear.resolve env k = .panic ∧ r.clear.get env x = .ok none ∧ r.clear.iter env = .ok [] := by
  simp [Rodeo.clear, Rodeo.len, Rodeo.tryResolve, tryResolveIn, Rodeo.containsKey, Rodeo.resolve, resolveIn,
    Rodeo.get, tableFind, Rodeo.iter, iterIn]

/-- The cleared interner is a valid empty interner: the invariant holds again, so every theorem about
reachable states (round trip C01, uniqueness C02, failure behaviour C07, memory cap C08, density C10)
applies verbatim to every later history — `clear` is one of the operations of a history, so any
number of fill/clear cycles is covered by the induction over histories. -/
theorem clear_reach {env : Env} {r : Rodeo} (h : RodeoReach env r) : RodeoReach env r.clear := by
  obtain ⟨N, cap, max, ops, hc, hw, rfl⟩ := h
  refine ⟨N, cap, max, ops ++ [.clear], hc, ?_, ?_⟩
  · intro op hop
    simp only [List.mem_append, List.mem_singleton] at hop
    rcases hop with hop | rfl
    · exact hw op hop
    · trivial
  · simp [Rodeo.run, Rodeo.apply]

theorem clear_inv {env : Env} {r : Rodeo} (h : RodeoReach env r) : r.clear.Inv env :=
  rodeo_reach_inv (clear_reach h)

/-- Numbering restarts at 0: the first new string after a clear gets key 0 (given room for it). -/
theorem numbering_restarts {env : Env} {r : Rodeo} (h : RodeoReach env r) (x : Bytes) (g : Bool)
    (r' : Rodeo) (k : Nat) (hs : r.clear.tryIntern env x g = .ok (r', k)) : k = 0 := by
  rcases Rodeo.tryIntern_ok (clear_inv h) hs with ⟨_, hk⟩ | ⟨rfl, _⟩
  · simp [Rodeo.clear, Rodeo.str, strAt] at hk
  · rfl

/-- `clear` keeps the blocks (capacity and accounting); only their fill index is reset. -/
theorem clear_mem (r : Rodeo) : r.clear.arena.usage = r.arena.usage ∧ r.clear.arena.max = r.arena.max ∧
    r.clear.arena.all.map (·.cap) = r.arena.all.map (·.cap) ∧ ∀ b ∈ r.clear.arena.all, b.data = [] := by
  refine ⟨rfl, rfl, ?_, ?_⟩
  · simp [Rodeo.clear, Arena.clear, Arena.all, Bucket.clear, List.map_map, Function.comp_def]
  · intro b hb
    simp only [Rodeo.clear, Arena.clear, Arena.all, List.mem_cons, List.mem_map, Bucket.clear] at hb
    rcases hb with rfl | ⟨c, _, rfl⟩ <;> rfl

/-! ### Non-vacuity: fill, clear, refill -/
example : (match (Rodeo.new 255 2 1000).tryIntern C02.constEnv [1, 2, 3] true with
    | .ok (r, _) => (match r.clear.tryIntern C02.constEnv [4] true with
      | .ok (r', k) => decide (k = 0 ∧ r'.len = 1)
      | _ => false)
    | _ => false) = true := by decide

/-! ### Tie to the source

`Rodeo.clear` in the model clears the table, the string vector and every block, unconditionally.  The
body of `Rodeo::clear` regenerated from the source is exactly the three `clear()` calls. -/
theorem clear_body_is_three_clears : Extracted.rodeoClearBody = .clears [.map, .strings, .arena] := by decide

/-- ... and the arena's `clear` resets every block of its vector, unconditionally, each by setting its fill index to
0 - what `clear_mem` says of the model (`∀ b ∈ r.clear.arena.all, b.data = []`).  A loop that stops early, skips a
block or is taken only under a condition is an unrecognised shape. -/
theorem arena_clear_rewinds_every_block :
    Extracted.arenaClearShape = .everyBlock ∧ Extracted.bucketClearResetsIndex = true := by decide

/-- The code this file's theorems are about is the same under every feature configuration: the regenerated
census of conditional compilation contains import blocks, whole serde impls, optional-dependency impls and
module declarations only, and no gate inside any function body (`Lemmas/Config.lean`). -/
theorem same_code_under_every_feature_configuration :
    (Extracted.cfgGates.all fun g => g.kind != .other) = true ∧ Extracted.bodyGates.isEmpty = true :=
  Lasso.one_code_base_for_all_configurations

end Lasso.C13
