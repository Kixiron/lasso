import LassoProofs.C02
import LassoProofs.Lemmas.Grow
import LassoProofs.Lemmas.Ctor
import LassoModel.Construct
import LassoProofs.Lemmas.Config
/-
  C08 — the memory limit is a hard cap and memory accounting is exact (sequential use).

  `usage` is what `current_memory_usage()` reports, `max` what `max_memory_usage()` reports.
  usize arithmetic is modelled in `Nat` (no overflow; the harness runs with overflow checks on).
-/
namespace Lasso.C08
open Lasso Lasso.C02

/-- The reported usage always equals the bytes of the storage blocks actually held. -/
theorem rodeo_usage_exact {env : Env} {r : Rodeo} (h : RodeoReach env r) :
    r.arena.usage = sumCaps r.arena.all := (rodeo_reach_inv h).wf.usage_eq

theorem threaded_usage_exact {env : Env} {t : Threaded} (h : ThreadedReach env t) :
    t.arena.usage = sumCaps t.arena.buckets := (threaded_reach_inv h).wf.usage_eq

/-- No block is ever filled beyond its capacity. -/
theorem rodeo_blocks_fit {env : Env} {r : Rodeo} (h : RodeoReach env r) :
    ∀ b ∈ r.arena.all, b.data.length ≤ b.cap := (rodeo_reach_inv h).wf.fits

/-- One interning call never raises the usage above the limit: the usage either stays, or grows to
at most the limit.  Hence, once `usage ≤ limit` holds it holds forever, and if it did not hold when
the limit was set, no call makes it worse. -/
theorem rodeo_intern_cap {env : Env} {r r' : Rodeo} (x : Bytes) (g : Bool) (k : Nat)
    (hs : r.tryIntern env x g = .ok (r', k)) (h : RodeoReach env r) :
    r'.arena.max = r.arena.max ∧ (r'.arena.usage = r.arena.usage ∨ (r.arena.usage < r'.arena.usage ∧ r'.arena.usage ≤ r.arena.max)) := by
  rcases Rodeo.tryIntern_ok (rodeo_reach_inv h) hs with ⟨rfl, _⟩ | ⟨_, _, _, hst, _⟩
  · exact ⟨rfl, Or.inl rfl⟩
  · exact Arena.store_usage hst

theorem threaded_intern_cap {env : Env} {t : Threaded} (x : Bytes) (h : ThreadedReach env t) :
    (t.tryIntern env x).1.arena.max = t.arena.max ∧
    ((t.tryIntern env x).1.arena.usage = t.arena.usage ∨
      (t.arena.usage < (t.tryIntern env x).1.arena.usage ∧ (t.tryIntern env x).1.arena.usage ≤ t.arena.max)) := by
  rcases Threaded.tryIntern_spec (threaded_reach_inv h) x with ⟨_, _, he⟩ | ⟨_, ⟨_, he⟩ | ⟨a', ref, hst, ⟨_, he, _, _⟩ | ⟨_, he, _⟩⟩⟩
  · rw [he]; exact ⟨rfl, Or.inl rfl⟩
  · rw [he]; exact ⟨rfl, Or.inl rfl⟩
  · rw [he]; exact LArena.store_usage hst
  · rw [he]; exact LArena.store_usage hst

/-- Static strings and the empty string never consume arena memory (no new block, usage unchanged). -/
theorem rodeo_static_free {env : Env} {r r' : Rodeo} (i : Nat) (g : Bool) (k : Nat)
    (hs : r.tryInternStatic env i g = .ok (r', k)) (x : Bytes) (hp : env.pool[i]? = some x)
    (h : RodeoReach env r) : r'.arena = r.arena := by
  rcases Rodeo.tryInternStatic_ok (rodeo_reach_inv h) hp hs with ⟨rfl, _⟩ | ⟨_, _, ha, _⟩
  · rfl
  · exact ha

theorem rodeo_empty_free {env : Env} {r r' : Rodeo} (g : Bool) (k : Nat)
    (hs : r.tryIntern env [] g = .ok (r', k)) (h : RodeoReach env r) : r'.arena = r.arena := by
  rcases Rodeo.tryIntern_ok (rodeo_reach_inv h) hs with ⟨rfl, _⟩ | ⟨_, _, _, hst, _⟩
  · rfl
  · rw [Arena.store_empty] at hst; injection hst with hst; injection hst with a b; exact a.symm

/-- Interning fails for lack of memory only when the string genuinely cannot fit: it does not fit the
current block *and* usage plus its length exceeds the limit — and in exactly those states it fails. -/
theorem arena_err_iff (a : Arena) (x : Bytes) :
    a.store x = .err .memoryLimit ↔ (x.length ≠ 0 ∧ a.cur.free < x.length ∧ a.usage + x.length > a.max) := by
  constructor
  · intro h; obtain ⟨_, h0, h1, h2⟩ := Arena.store_err h; exact ⟨h0, h1, h2⟩
  · rintro ⟨h0, h1, h2⟩; exact Arena.store_err_of h0 h1 h2

theorem larena_err_iff (a : LArena) (x : Bytes) :
    a.store x = .err .memoryLimit ↔ (x.length ≠ 0 ∧ LArena.fitIn x a.buckets = none ∧ a.usage + x.length > a.max) := by
  constructor
  · intro h; obtain ⟨_, h0, h1, h2⟩ := LArena.store_err h; exact ⟨h0, h2, h1⟩
  · rintro ⟨h0, h1, h2⟩; exact LArena.store_err_of h0 h1 h2

/-- The arena reports no other error than the memory limit, and never faults (the unchecked copy is
always in bounds — this is the statement the unrepaired remaining-budget branch violated, D1). -/
theorem arena_only_memory_error {env : Env} {r : Rodeo} (h : RodeoReach env r) (x : Bytes) :
    (∀ e, r.arena.store x = .err e → e = .memoryLimit) ∧ (∀ f, r.arena.store x ≠ .fault f) ∧ r.arena.store x ≠ .panic :=
  ⟨fun _ he => (Arena.store_err he).1, fun f => Arena.store_no_fault (rodeo_reach_inv h).wf x f, Arena.store_no_panic x⟩

/-- Raising the limit makes interning possible again. -/
theorem raise_limit_helps {env : Env} {r : Rodeo} (h : RodeoReach env r) (x : Bytes) (g : Bool) (L : Nat)
    (hnew : ∀ k, r.str env k ≠ some x) (hlt : r.strings.length < r.N) (hL : r.arena.usage + x.length ≤ L) :
    ∃ r', (r.setLimit L).tryIntern env x g = .ok (r', r.strings.length) := by
  have hi := Rodeo.setLimit_inv (rodeo_reach_inv h) L
  rw [Rodeo.tryIntern_eq hi]
  rcases Rodeo.findOr_total hi x ((r.setLimit L).arena.store x) with ⟨k, hk, _⟩ | ⟨_, ⟨hl, _⟩ | ⟨_, he⟩⟩
  · exact absurd hk (hnew k)
  · simp [Rodeo.setLimit] at hl; omega
  · rw [he]
    rcases Arena.store_total (r.setLimit L).arena x with ⟨a', ref, hs⟩ | ⟨_, _, _, h2⟩
    · rw [hs]; exact ⟨_, rfl⟩
    · simp [Rodeo.setLimit] at h2; omega

/-- `clear` keeps every block and the accounting. -/
theorem clear_keeps_usage (r : Rodeo) : r.clear.arena.usage = r.arena.usage ∧ r.clear.arena.max = r.arena.max := by
  simp [Rodeo.clear, Arena.clear]

/-! ### D1, inside the model: the unrepaired remaining-budget branch overruns its block -/

/-- The branch as it was before the repair: no `rem < len` guard. -/
def storeRemainingUnrepaired (a : Arena) (s : Bytes) : Out (Arena × StrRef) :=
  let rem := a.max - a.usage
  if a.usage + rem > a.max then .err .memoryLimit
  else if rem = 0 then .err .memoryLimit
  else if s.length ≤ rem then .ok (a, .empty)
  else .fault .oobWrite

/-- `Capacity::new(_, 10 bytes)`, limit 15, 8 bytes used, a 6-byte string: 5 bytes are left. -/
example : storeRemainingUnrepaired
    { cur := { id := 0, cap := 10, data := [1,2,3,4,5,6,7,8] }, full := [], bucketCap := 10, usage := 10, max := 15, nextId := 1 }
    [1,2,3,4,5,6] = .fault .oobWrite := by decide

/-- The repaired arena refuses the same input with `MemoryLimitReached`. -/
example : Arena.store
    { cur := { id := 0, cap := 10, data := [1,2,3,4,5,6,7,8] }, full := [], bucketCap := 10, usage := 10, max := 15, nextId := 1 }
    [1,2,3,4,5,6] = .err .memoryLimit := by decide

/-! ### Tie to the source: the growth logic of both arenas is regenerated from `store_str`

`Extracted.arenaGrow` / `Extracted.lockfreeGrow` are the decision trees the extractor translates from
the statements of `store_str` after the search for a block with room (conditions, amount claimed from
the budget, block size and how it is built, stored capacity, placement).  For every arena state and
every string the model does exactly what the tree says. -/
theorem growth_logic_is_source :
    (∀ (a : Arena) (s : Bytes), s.length ≠ 0 → ¬ s.length ≤ a.cur.free →
      (Grow.eval (a.env s) Extracted.arenaGrow).map (a.applyOutcome s) = some (a.store s)) ∧
    (∀ (a : LArena) (s : Bytes),
      (Grow.eval (a.env s) Extracted.lockfreeGrow).map (a.applyOutcome s) = some (a.grow s)) ∧
    Extracted.arenaAllocateIsCheckThenAdd = true :=
  ⟨arena_store_is_source_tree, larena_grow_is_source_tree, arena_allocate_shape⟩

/-! ### Tie to the source: every constructor and builder, regenerated

"For all initial capacities, all limits": an interner can be built through seven constructors (plus
`Default`) and the `Capacity` / `MemoryLimits` builders.  The extractor regenerates what each of them hands
on (`Extracted.ctorSpecs`, resolved through any chain of calls between constructors), what the full
constructor gives to the arena and the tables (`Extracted.fullCtors`) and the values the builders produce
(`Extracted.capBuilders`, `limBuilders`); `ctorConfig` interprets those tables. -/

/-- For both interners, every constructor, every builder and all numeric arguments: the first block, the
limit and the pre-sizing are the documented ones (defaults: 50 strings, 4096 bytes, no limit). -/
theorem constructors_build_documented_configuration (owner : Source.Wrapper)
    (ho : owner = .rodeo ∨ owner = .threaded) (c : Source.CtorName) (capB : Source.BuilderName)
    (strings bytes : Nat) (limB : Source.BuilderName) (limit : Nat) :
    ctorConfig owner c capB strings bytes limB limit = ctorConfigDoc c capB strings bytes limB limit :=
  ctorConfig_is_documented owner ho c capB strings bytes limB limit

/-- Whatever constructor built it, a fresh `Rodeo` is the state all theorems of C01–C13 start from: it is
reachable (by the empty history), charges exactly its first block, and reports the limit it was given. -/
theorem constructed_rodeo_is_initial_state (env : Env) (N : Nat) (c : Source.CtorName) (capB : Source.BuilderName)
    (strings bytes : Nat) (hb : 0 < bytes) (limB : Source.BuilderName) (limit : Nat) (r : Rodeo)
    (h : Rodeo.construct N c capB strings bytes limB limit = some r) :
    ∃ cfg, ctorConfigDoc c capB strings bytes limB limit = some cfg ∧
      r = Rodeo.new N cfg.arenaBytes cfg.arenaMax ∧ RodeoReach env r ∧
      r.arena.usage = cfg.arenaBytes ∧ r.arena.max = cfg.arenaMax ∧ r.strings = [] := by
  obtain ⟨cfg, hc, rfl, hpos⟩ := construct_is_documented (Or.inl rfl) hb h
  exact ⟨cfg, hc, rfl, ⟨N, cfg.arenaBytes, cfg.arenaMax, [], hpos, by simp, rfl⟩, rfl, rfl, rfl⟩

theorem constructed_threaded_is_initial_state (env : Env) (N : Nat) (c : Source.CtorName) (capB : Source.BuilderName)
    (strings bytes : Nat) (hb : 0 < bytes) (limB : Source.BuilderName) (limit : Nat) (t : Threaded)
    (h : Threaded.construct N c capB strings bytes limB limit = some t) :
    ∃ cfg, ctorConfigDoc c capB strings bytes limB limit = some cfg ∧
      t = Threaded.new N cfg.arenaBytes cfg.arenaMax ∧ ThreadedReach env t ∧
      t.arena.usage = cfg.arenaBytes ∧ t.arena.max = cfg.arenaMax ∧ t.strs = [] ∧ t.ctr = 0 := by
  obtain ⟨cfg, hc, rfl, hpos⟩ := construct_is_documented (Or.inr rfl) hb h
  exact ⟨cfg, hc, rfl, ⟨N, cfg.arenaBytes, cfg.arenaMax, [], hpos, by simp, rfl⟩, rfl, rfl, rfl, rfl⟩

/-- Non-vacuity: `Rodeo::with_capacity(Capacity::for_bytes(10))` and `Rodeo::with_memory_limits(..)`. -/
example : Rodeo.construct 255 .withCapacity .forBytes 0 10 .default 0 = some (Rodeo.new 255 10 18446744073709551615) ∧
    Rodeo.construct 255 .withMemoryLimits .minimal 0 1 .forMemoryUsage 77 = some (Rodeo.new 255 4096 77) := by
  constructor <;> rfl

/-- The code this file's theorems are about is the same under every feature configuration: the regenerated
census of conditional compilation contains import blocks, whole serde impls, optional-dependency impls and
module declarations only, and no gate inside any function body (`Lemmas/Config.lean`). -/
theorem same_code_under_every_feature_configuration :
    (Extracted.cfgGates.all fun g => g.kind != .other) = true ∧ Extracted.bodyGates.isEmpty = true :=
  Lasso.one_code_base_for_all_configurations

end Lasso.C08
