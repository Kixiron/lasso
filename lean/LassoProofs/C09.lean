import LassoProofs.Lemmas.ConcArenaHist
import LassoModel.Extracted
import LassoProofs.Lemmas.Config
/-
  C09 — the memory limit also holds when threads intern concurrently.

  Quantified over: any number of threads, any programs, any first-block capacity and limit, every
  schedule of the arena machine (`ConcArena.lean`: the loads of capacity / usage / limit in `store_str`,
  the load of the limit and the atomic check-and-add in `allocate_memory` are separate steps) and every
  pattern of spurious compare-exchange failures.

  Limit changes racing with interning are events of the schedule (`runE`).  Allocation failure of the
  global allocator is not modelled.
-/
namespace Lasso.C09
open Lasso Lasso.CA

section
variable (cap max : Nat) (programs : List (List Bytes))

/-- Without the assumption on the first block: the usage never exceeds the larger of the first block
and the limit. -/
theorem usage_bound (sched : List (Nat × Bool)) :
    (run (init cap max programs) sched).usage ≤ Nat.max cap (run (init cap max programs) sched).max := by
  have h := (reach_inv cap max programs sched).capOk
  rw [(run_limits sched _).2] at h
  rw [(run_limits sched (init cap max programs)).1]
  exact h

/-- **The reported usage never exceeds the limit**, in every state any thread can observe. (An arena
is created with its first block already allocated; `cap ≤ max` is what the constructors guarantee.) -/
theorem usage_never_exceeds_limit (hcm : cap ≤ max) (sched : List (Nat × Bool)) :
    (run (init cap max programs) sched).usage ≤ max := by
  have h := usage_bound cap max programs sched
  rw [(run_limits sched _).1] at h
  exact Nat.le_trans h (Nat.max_le.mpr ⟨hcm, Nat.le_refl _⟩)

/-- **Limit changes racing with interning** (`Ev.setMax` events anywhere in the schedule, the store of
`set_memory_limits` being one atomic step): a thread may claim against a limit it loaded before the
limit was lowered, so "usage ≤ the limit now" cannot hold — what does hold in every reachable state is
that the usage never exceeds the highest limit that was ever in force (or the first block). -/
theorem usage_never_exceeds_highest_limit (evs : List Ev) (B : Nat) (hc : cap ≤ B) (hm : max ≤ B)
    (hall : ∀ m, Ev.setMax m ∈ evs → m ≤ B) :
    (runE (init cap max programs) evs).usage ≤ B := by
  have hi := runE_inv evs (init_inv cap max programs)
  have hh := runE_hi_le evs (init cap max programs) B (by simpa [init] using hm) hall
  exact Nat.le_trans hi.capOk (Nat.max_le.mpr ⟨hc, hh⟩)

/-- The accounting identity also holds while the limit changes. -/
theorem usage_is_held_under_limit_changes (evs : List Ev) :
    (runE (init cap max programs) evs).usage =
      capSum (runE (init cap max programs) evs).buckets + owned (runE (init cap max programs) evs).ts :=
  runE_acct evs (init_acct cap max programs)

/-- **The usage is exactly the storage held**: at every moment it equals the capacity of the published
blocks plus that of blocks a thread has allocated and is about to publish … -/
theorem usage_is_held (sched : List (Nat × Bool)) :
    (run (init cap max programs) sched).usage =
      capSum (run (init cap max programs) sched).buckets + owned (run (init cap max programs) sched).ts :=
  by rw [run_eq_runE]; exact usage_is_held_under_limit_changes cap max programs _

/-- … and at quiescence it equals the bytes of the storage blocks in the arena. -/
theorem quiescent_usage (sched : List (Nat × Bool)) (hq : quiescent (run (init cap max programs) sched) = true) :
    (run (init cap max programs) sched).usage = capSum (run (init cap max programs) sched).buckets := by
  rw [usage_is_held cap max programs sched, owned_quiescent (quiescent_idle hq)]
  rfl

end

/-! ### Tie to the source

The model claims the budget in one atomic step (`allocUpd`).  That is faithful only if the source
checks and adds with ONE read-modify-write; the extractor reports the shape of `allocate_memory`. -/

theorem budget_claim_is_atomic : Extracted.allocShape = .casLoop := by decide

/-- Why the shape matters: with a separate check and add, two threads that both pass the check
overshoot the limit.  (`usage`, `limit`, two requests; both check, then both add.) -/
def checkThenAdd (usage limit : Nat) (reqs : List Nat) : Nat :=
  let passed := reqs.filter fun r => usage + r ≤ limit       -- every thread checks first …
  usage + passed.sum                                          -- … then every thread adds

theorem check_then_add_overshoots : ∃ usage limit reqs, checkThenAdd usage limit reqs > limit :=
  ⟨8, 12, [4, 4], by decide⟩

/-! ### The hypotheses are met by real runs -/

/-- Two threads each need a new block; the limit admits only one of them. -/
def demo : List (Nat × Bool) := (List.replicate 40 [(0, false), (1, false)]).flatten

example : (run (init 2 4 [[[1, 2], [3, 4]], [[5, 6], [7, 8]]]) demo).usage = 4 ∧
    quiescent (run (init 2 4 [[[1, 2], [3, 4]], [[5, 6], [7, 8]]]) demo) = true ∧
    (run (init 2 4 [[[1, 2], [3, 4]], [[5, 6], [7, 8]]]) demo).log.any (fun e => e.2.2 == .err) = true := by decide

/-- Why "usage ≤ the limit *now*" is not claimed under racing limit changes: one thread loads the limit
(64), the limit is lowered to 2, the thread claims against the 64 it saw — in the source exactly as in
the model (`max_memory_usage.load` precedes the `fetch_update`). -/
def staleLimit : List Ev := List.replicate 13 (Ev.th 0 false) ++ [Ev.setMax 2] ++ List.replicate 4 (Ev.th 0 false)

example : (runE (init 2 64 [[[1, 2], [3, 4]]]) staleLimit).usage = 6 ∧ (runE (init 2 64 [[[1, 2], [3, 4]]]) staleLimit).max = 2 := by
  decide

/-- The code this file's theorems are about is the same under every feature configuration: the regenerated
census of conditional compilation contains import blocks, whole serde impls, optional-dependency impls and
module declarations only, and no gate inside any function body (`Lemmas/Config.lean`). -/
theorem same_code_under_every_feature_configuration :
    (Extracted.cfgGates.all fun g => g.kind != .other) = true ∧ Extracted.bodyGates.isEmpty = true :=
  Lasso.one_code_base_for_all_configurations

end Lasso.C09
