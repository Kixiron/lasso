import LassoProofs.Lemmas.Paths
import LassoProofs.Lemmas.Grow
import LassoProofs.Lemmas.THistory
import LassoProofs.Lemmas.Config
/-
  C01 — round-trip fidelity: a key always resolves to the exact string it was minted for.

  Quantified over: every hash function and static pool (`env`), every key capacity `N`, every initial
  byte capacity `cap ≥ 1`, every memory limit, every history before the mint (`pre`), every string,
  every table-growth oracle, every later history without `clear` (`post`).  `Index::index` is
  `resolve` (the driver runs the same function for both).
-/
namespace Lasso.C01
open Lasso

/-- All resolution paths of the single-threaded interner agree on `x` for key `k`. -/
def RodeoResolves (env : Env) (r : Rodeo) (k : Nat) (x : Bytes) : Prop :=
  r.resolve env k = .ok x ∧ r.tryResolve env k = .ok (some x) ∧ r.resolveUnchecked env k = .ok x ∧
  ∃ l, r.iter env = .ok l ∧ l.length = r.strings.length ∧ l[k]? = some (k, x)

/-- All resolution paths of the concurrent interner (one thread) agree on `x` for key `k`. -/
def ThreadedResolves (env : Env) (t : Threaded) (k : Nat) (x : Bytes) : Prop :=
  t.resolve env k = .ok x ∧ t.tryResolve env k = .ok (some x) ∧ t.containsKey k = true

theorem rodeo_roundtrip (env : Env) (N cap max : Nat) (hcap : 0 < cap)
    (pre : List ROp) (hpre : ∀ op ∈ pre, op.wellFormed env)
    (x : Bytes) (g : Bool) (r1 : Rodeo) (k : Nat)
    (hmint : ((Rodeo.new N cap max).run env pre).tryIntern env x g = .ok (r1, k))
    (post : List ROp) (hpost : ∀ op ∈ post, op.wellFormed env) (hnc : ∀ op ∈ post, op.isClear = false) :
    RodeoResolves env (r1.run env post) k x := by
  have m := Rodeo.tryIntern_minted (Rodeo.run_inv (Rodeo.new_inv env N cap max hcap) pre hpre) hmint
  exact Rodeo.paths (Rodeo.run_inv m.inv post hpost) k x (Rodeo.run_keeps m.inv post hpost hnc k x m.str)

theorem rodeo_roundtrip_static (env : Env) (N cap max : Nat) (hcap : 0 < cap)
    (pre : List ROp) (hpre : ∀ op ∈ pre, op.wellFormed env)
    (i : Nat) (x : Bytes) (hi : env.pool[i]? = some x) (g : Bool) (r1 : Rodeo) (k : Nat)
    (hmint : ((Rodeo.new N cap max).run env pre).tryInternStatic env i g = .ok (r1, k))
    (post : List ROp) (hpost : ∀ op ∈ post, op.wellFormed env) (hnc : ∀ op ∈ post, op.isClear = false) :
    RodeoResolves env (r1.run env post) k x := by
  have m := Rodeo.tryInternStatic_minted (Rodeo.run_inv (Rodeo.new_inv env N cap max hcap) pre hpre) hi hmint
  exact Rodeo.paths (Rodeo.run_inv m.inv post hpost) k x (Rodeo.run_keeps m.inv post hpost hnc k x m.str)

theorem threaded_roundtrip (env : Env) (N cap max : Nat) (hcap : 0 < cap)
    (pre : List TOp) (hpre : ∀ op ∈ pre, op.wellFormed env)
    (x : Bytes) (t1 : Threaded) (k : Nat)
    (hmint : ((Threaded.new N cap max).run env pre).tryIntern env x = (t1, .ok k))
    (post : List TOp) (hpost : ∀ op ∈ post, op.wellFormed env) :
    ThreadedResolves env (t1.run env post) k x := by
  have m := Threaded.tryIntern_minted (Threaded.run_inv_keeps (Threaded.new_inv env N cap max hcap) pre hpre).1 hmint
  exact Threaded.paths k x ((Threaded.run_inv_keeps m.inv post hpost).2 k x m.str)

theorem threaded_roundtrip_static (env : Env) (N cap max : Nat) (hcap : 0 < cap)
    (pre : List TOp) (hpre : ∀ op ∈ pre, op.wellFormed env)
    (i : Nat) (x : Bytes) (hi : env.pool[i]? = some x) (t1 : Threaded) (k : Nat)
    (hmint : ((Threaded.new N cap max).run env pre).tryInternStatic env i = (t1, .ok k))
    (post : List TOp) (hpost : ∀ op ∈ post, op.wellFormed env) :
    ThreadedResolves env (t1.run env post) k x := by
  have m := Threaded.tryInternStatic_minted (Threaded.run_inv_keeps (Threaded.new_inv env N cap max hcap) pre hpre).1 hi hmint
  exact Threaded.paths k x ((Threaded.run_inv_keeps m.inv post hpost).2 k x m.str)

/-- No reachable state makes any resolution path fault (read outside the arena, dangling reference). -/
theorem rodeo_paths_never_fault (env : Env) (N cap max : Nat) (hcap : 0 < cap)
    (ops : List ROp) (hops : ∀ op ∈ ops, op.wellFormed env) (k : Nat) (f : Fault)
    (r : Rodeo) (hr : r = (Rodeo.new N cap max).run env ops) :
    r.resolve env k ≠ .fault f ∧ r.tryResolve env k ≠ .fault f ∧ r.iter env ≠ .fault f := by
  rw [hr]
  exact Rodeo.paths_safe (Rodeo.run_inv (Rodeo.new_inv env N cap max hcap) ops hops) k f

/-! ### Non-vacuity: a concrete history meets the hypotheses -/

def exEnv : Env := { hash := fun _ => 0, pool := [[104, 105]] }

def okKey : Out (Rodeo × Nat) → Option Nat
  | .ok (_, k) => some k
  | _ => none

example : okKey (((Rodeo.new 255 1 1000).run exEnv [.intern [1, 2, 3] true, .internStatic 0 false]).tryIntern exEnv [9, 9] true)
    = some 2 := by decide

/-! ### Tie to the source: the growth logic of both arenas is regenerated from `store_str`

`Extracted.arenaGrow` / `Extracted.lockfreeGrow` are the decision trees the extractor translates from
the statements of `store_str` after the search for a block with room (conditions, amount claimed from
the budget, block size and how it is built, stored capacity, placement).  For every arena state and
every string the model does exactly what the tree says. -/
theorem growth_logic_is_source :
    (∀ (a : Arena) (s : Bytes), s.length ≠ 0 → ¬ s.length ≤ a.cur.free →
      (Grow.eval (a.env s) Extracted.arenaGrow).map (a.applyOutcome s) = some (a.store s)) ∧
    (∀ (a : LArena) (s : Bytes),
      (Grow.eval (a.env s) Extracted.lockfreeGrow).map (a.applyOutcome s) = some (a.grow s)) ∧
    Extracted.arenaAllocateIsCheckThenAdd = true :=
  ⟨arena_store_is_source_tree, larena_grow_is_source_tree, arena_allocate_shape⟩

/-- The code this file's theorems are about is the same under every feature configuration: the regenerated
census of conditional compilation contains import blocks, whole serde impls, optional-dependency impls and
module declarations only, and no gate inside any function body (`Lemmas/Config.lean`). -/
theorem same_code_under_every_feature_configuration :
    (Extracted.cfgGates.all fun g => g.kind != .other) = true ∧ Extracted.bodyGates.isEmpty = true :=
  Lasso.one_code_base_for_all_configurations

end Lasso.C01
