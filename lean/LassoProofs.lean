import LassoProofs.C01
import LassoProofs.C02
import LassoProofs.C03
import LassoProofs.C04
import LassoProofs.C05
import LassoProofs.C06
import LassoProofs.C07
import LassoProofs.C08
import LassoProofs.C09
import LassoProofs.C10
import LassoProofs.C11
import LassoProofs.C12
import LassoProofs.C13
import LassoProofs.C14
import LassoProofs.C15
import LassoProofs.C16
import LassoProofs.C17
import LassoProofs.C18
import LassoProofs.C19
import LassoProofs.C20
import LassoProofs.Lemmas.Arena
import LassoProofs.Lemmas.Clone
import LassoProofs.Lemmas.CloneInterp
import LassoProofs.Lemmas.Conc
import LassoProofs.Lemmas.ConcArena
import LassoProofs.Lemmas.ConcArenaHist
import LassoProofs.Lemmas.ConcArenaIds
import LassoProofs.Lemmas.ConcArenaSeq
import LassoProofs.Lemmas.ConcArenaSolo
import LassoProofs.Lemmas.ConcEffects
import LassoProofs.Lemmas.ConcSeq
import LassoProofs.Lemmas.Config
import LassoProofs.Lemmas.Ctor
import LassoProofs.Lemmas.DeserInterp
import LassoProofs.Lemmas.Grow
import LassoProofs.Lemmas.History
import LassoProofs.Lemmas.InternInterp
import LassoProofs.Lemmas.LArena
import LassoProofs.Lemmas.Lists
import LassoProofs.Lemmas.Assoc
import LassoProofs.Lemmas.Paths
import LassoProofs.Lemmas.Release
import LassoProofs.Lemmas.Rodeo
import LassoProofs.Lemmas.SerDoc
import LassoProofs.Lemmas.Serde
import LassoProofs.Lemmas.SerdeT
import LassoProofs.Lemmas.THistory
import LassoProofs.Lemmas.TInternInterp
import LassoProofs.Lemmas.Table
import LassoProofs.Lemmas.Threaded
import LassoProofs.Lemmas.Threads
import LassoProofs.Lemmas.Views
